/-
  Root of the library: its imports reach every module, directly or through another import, so that `lake build` checks
  all of them — except `HaqqModel.AuditTool` (imports `Lean`), which `setup.sh` and `check` build.
-/
import HaqqModel.Prelude.Basic
import HaqqModel.Model.Dao
import HaqqModel.Lemmas.Dao
import HaqqModel.Generated.Facts
import HaqqModel.Props.C12
import HaqqModel.Driver.C12
import HaqqModel.Model.Schedule
import HaqqModel.Model.Vesting
import HaqqModel.Lemmas.Schedule
import HaqqModel.Lemmas.Conjunct
import HaqqModel.Props.C09
import HaqqModel.Driver.C09
import HaqqModel.Model.FeeMarket
import HaqqModel.Props.C17
import HaqqModel.Driver.C17
import HaqqModel.Prelude.Dec
import HaqqModel.Model.Coinomics
import HaqqModel.Props.C13
import HaqqModel.Driver.C13
import HaqqModel.Model.LiquidVesting
import HaqqModel.Lemmas.Liquid
import HaqqModel.Props.C11
import HaqqModel.Driver.C11
import HaqqModel.Model.Ante
import HaqqModel.Props.C06
import HaqqModel.Driver.C06
import HaqqModel.Model.EthTx
import HaqqModel.Props.C18
import HaqqModel.Driver.C18
import HaqqModel.Model.Ledger
import HaqqModel.Props.C14
import HaqqModel.Driver.C14
import HaqqModel.Model.Fees
import HaqqModel.Props.C07
import HaqqModel.Driver.C07
import HaqqModel.Props.C08Model
import HaqqModel.Props.C08
import HaqqModel.Driver.C08
import HaqqModel.Lemmas.StateDB
import HaqqModel.Props.C05
import HaqqModel.Props.C02
import HaqqModel.Props.C01
import HaqqModel.Props.C20
import HaqqModel.Props.C15
import HaqqModel.Props.C19
import HaqqModel.Props.C04
import HaqqModel.Props.C16
import HaqqModel.Props.C10
import HaqqModel.Props.C03
import HaqqModel.Props.C05Storage
import HaqqModel.Props.Script
import HaqqModel.Driver.C03
import HaqqModel.Driver.C04
import HaqqModel.Driver.C05
import HaqqModel.Driver.C10
import HaqqModel.Driver.Script
