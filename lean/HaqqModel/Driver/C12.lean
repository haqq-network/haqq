import HaqqModel.Model.Dao
import HaqqModel.Driver.Util
import HaqqModel.Generated.Facts

namespace Haqq.Driver.C12
open Haqq.Dao

structure St where
  M : Nat := 4
  s : State := State.init

def allowed (d : Nat) : Bool := d < 3      -- 0 = aISLM, 1,2 = aLIQUID<n>, 3 = foreign denom

def showErr : Err → String
  | .disabled => "err:disabled" | .insufficientBank => "err:insufficientBank"
  | .invalidDenom => "err:invalidDenom" | .notEligible => "err:notEligible"
  | .insufficientFunds => "err:insufficientFunds" | .invalidCoins => "err:invalidCoins"

/-! The state components are functions, and what the model's operations return are towers of closures that re-run the
    operation at every lookup.  After each operation the driver replaces them by pointwise-equal copies that answer
    from a table on the first 16 addresses and `M` denominations (and from the original function elsewhere). -/
def tab1 (n : Nat) (f : Nat → Nat) : Array Nat := ((List.range n).map f).toArray
def fromTab1 (t : Array Nat) (f : Nat → Nat) : Nat → Nat := fun d => match t[d]? with | some v => v | none => f d
def tab2 (n m : Nat) (f : Nat → Nat → Nat) : Array (Array Nat) := ((List.range n).map fun a => tab1 m (f a)).toArray
def fromTab2 (t : Array (Array Nat)) (f : Nat → Nat → Nat) : Nat → Nat → Nat :=
  fun a d => match t[a]? with
    | some r => (match r[d]? with | some v => v | none => f a d)
    | none => f a d
def tabB (n : Nat) (f : Nat → Bool) : Array Bool := ((List.range n).map f).toArray
def fromTabB (t : Array Bool) (f : Nat → Bool) : Nat → Bool := fun a => match t[a]? with | some v => v | none => f a

def normState (M : Nat) (s : State) : State :=
  { s with bal := fromTab2 (tab2 16 M s.bal) s.bal, total := fromTab1 (tab1 M s.total) s.total,
           holders := fromTabB (tabB 16 s.holders) s.holders, modBal := fromTab1 (tab1 M s.modBal) s.modBal,
           bank := fromTab2 (tab2 16 M s.bank) s.bank }

theorem fromTab1_tab1 (n : Nat) (f : Nat → Nat) : fromTab1 (tab1 n f) f = f := by
  funext d
  unfold fromTab1 tab1
  split
  · next v h => exact range_map_get n f d v h
  · rfl

theorem fromTabB_tabB (n : Nat) (f : Nat → Bool) : fromTabB (tabB n f) f = f := by
  funext d
  unfold fromTabB tabB
  split
  · next v h => exact range_map_get n f d v h
  · rfl

theorem fromTab2_tab2 (n m : Nat) (f : Nat → Nat → Nat) : fromTab2 (tab2 n m f) f = f := by
  funext a d
  unfold fromTab2 tab2
  split
  · next r h => rw [range_map_get n _ a r h]; exact congrFun (fromTab1_tab1 m (f a)) d
  · rfl

theorem normState_eq (M : Nat) (s : State) : normState M s = s := by
  simp only [normState, fromTab1_tab1, fromTab2_tab2, fromTabB_tabB]

def apply (st : St) (r : Except Err State) : St × String :=
  match r with
  | .ok s' => ({ st with s := normState st.M s' }, "ok")
  | .error e => (st, showErr e)

def dump (st : St) (N : Nat) : String :=
  let addrs := List.range N
  let dens := List.range st.M
  let bal := addrs.flatMap fun a => dens.filterMap fun d =>
    if st.s.bal a d > 0 then some s!"{a}:{d}={st.s.bal a d}" else none
  let tot := dens.filterMap fun d => if st.s.total d > 0 then some s!"{d}={st.s.total d}" else none
  let md := dens.filterMap fun d => if st.s.modBal d > 0 then some s!"{d}={st.s.modBal d}" else none
  let hs := addrs.filter fun a => st.s.holders a
  let bk := addrs.flatMap fun a => dens.filterMap fun d =>
    if st.s.bank a d > 0 then some s!"{a}:{d}={st.s.bank a d}" else none
  s!"bal[{",".intercalate bal}] total[{",".intercalate tot}] mod[{",".intercalate md}] holders[{showNats hs}] bank[{",".intercalate bk}]"

def order : Bool := Haqq.Facts.daoTransferCreditFirst

def step (st : St) : List String → St × String
  | ["reset", m] => match m.toNat? with
      | some m => ({ M := m, s := State.init }, "ok")
      | none => (st, "bad-op")
  | ["mint", a, d, v] => match a.toNat?, d.toNat?, v.toNat? with
      | some a, some d, some v => apply st (Dao.step st.M allowed order st.s (.bankMint a d v))
      | _, _, _ => (st, "bad-op")
  | ["enable", b] => apply st (Dao.step st.M allowed order st.s (.setEnabled (b == "1")))
  | ["fund", a, c] => match a.toNat?, parseCoins c with
      | some a, some c => apply st (Dao.step st.M allowed order st.s (.fund a c))
      | _, _ => (st, "bad-op")
  | ["xferall", a, b] => match a.toNat?, b.toNat? with
      | some a, some b => apply st (Dao.step st.M allowed order st.s (.transferAll a b))
      | _, _ => (st, "bad-op")
  | ["xferamt", a, b, c] => match a.toNat?, b.toNat?, parseCoins c with
      | some a, some b, some c => apply st (Dao.step st.M allowed order st.s (.transferAmount a b c))
      | _, _, _ => (st, "bad-op")
  | ["xferratio", a, b, r] =>
      -- msgServer.TransferOwnershipWithRatio: ValidateBasic 0 < ratio ≤ 1 (18-decimal raw integer),
      -- then amount_d = ⌊bal_d · ratio⌋ for every held denomination (zero amounts kept in the list)
      match a.toNat?, b.toNat?, r.toNat? with
      | some a, some b, some r =>
        if r = 0 || r > 10^18 then (st, "err:invalidRatio")
        else
          let coins := (accountCoins (st.s.bal a) st.M).map fun (d, v) => (d, v * r / 10^18)
          if coins.isEmpty then (st, "err:notEligible")
          else apply st (Dao.transfer st.M order st.s a b coins)
      | _, _, _ => (st, "bad-op")
  | ["crowd", _] => (st, "skip")
  | ["export"] => (st, "skip")
  | "reimport" :: _ => (st, "skip")
  | ["dump", n] => match n.toNat? with
      | some n => (st, dump st n)
      | none => (st, "bad-op")
  | _ => (st, "bad-op")

end Haqq.Driver.C12
