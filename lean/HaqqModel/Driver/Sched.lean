/-
  The wire format of amounts, periods and accounts shared by the C08, C09 and C11 drivers, and the table-backed copy of
  an account (`normAccount`, what the C09 driver keeps after a clawback) with the proof that it is the same account.
-/
import HaqqModel.Model.Vesting
import HaqqModel.Driver.Util

namespace Haqq.Driver
open Haqq.Sched Haqq.Vest

/-- number of denominations used on the wire: `len(schedDenoms)` in harness/props/c09.go (aISLM, bcoin, ccoin) -/
def wireM : Nat := 3

def amtOfCoins (l : List (Nat × Nat)) : Amt :=
  fun d => (l.filter (·.1 == d)).foldl (fun acc p => acc + p.2) 0

def coinsOfAmt (a : Amt) : List (Nat × Nat) :=
  (List.range wireM).filterMap fun d => if a d > 0 then some (d, a d) else none

def showAmt (a : Amt) : String := showCoins (coinsOfAmt a)

/-! Amounts are functions, and what the model's operations return are towers of closures that re-run the operation at
    every lookup.  Between operations the driver replaces them by pointwise-equal copies that answer from a table on
    the denominations the wire uses (and from the original function elsewhere). -/
def amtTable (a : Amt) : Array Nat := ((List.range wireM).map a).toArray
def tableAmt (arr : Array Nat) (orig : Amt) : Amt := fun d => match arr[d]? with | some v => v | none => orig d
def normAmt (a : Amt) : Amt := tableAmt (amtTable a) a
def normPeriods (ps : List Period) : List Period := ps.map fun p => ⟨p.length, tableAmt (amtTable p.amount) p.amount⟩
def normAccount (a : Account) : Account :=
  { a with original := tableAmt (amtTable a.original) a.original, lockup := normPeriods a.lockup, vesting := normPeriods a.vesting,
           delegatedFree := tableAmt (amtTable a.delegatedFree) a.delegatedFree,
           delegatedVesting := tableAmt (amtTable a.delegatedVesting) a.delegatedVesting }

theorem tableAmt_amtTable (a : Amt) : tableAmt (amtTable a) a = a := by
  funext d
  unfold tableAmt amtTable
  split
  · next v h => exact range_map_get wireM a d v h
  · rfl

def parseAmt (s : String) : Option Amt := (parseCoins s).map amtOfCoins

/-- "len@coins;len@coins" | "-" -/
def parsePeriods (s : String) : Option (List Period) :=
  if s == "-" then some [] else
  (s.splitOn ";").mapM fun item =>
    match item.splitOn "@" with
    | [l, c] => do let l ← l.toInt?; let a ← parseAmt c; pure ⟨l, a⟩
    | _ => none

theorem normPeriods_eq (ps : List Period) : normPeriods ps = ps := by
  simp only [normPeriods, tableAmt_amtTable]
  exact List.map_id ps

theorem normAccount_eq (a : Account) : normAccount a = a := by
  simp only [normAccount, tableAmt_amtTable, normPeriods_eq]

def showPeriods (ps : List Period) : String :=
  if ps.isEmpty then "-" else ";".intercalate (ps.map fun p => s!"{p.length}@{showAmt p.amount}")

def showMerged (m : Merged) : String := s!"{m.start} {m.endT} {showPeriods m.periods}"

def showAccount (a : Account) : String :=
  s!"funder={a.funder} start={a.start} end={a.endT} orig={showAmt a.original} lockup={showPeriods a.lockup} vesting={showPeriods a.vesting} df={showAmt a.delegatedFree} dv={showAmt a.delegatedVesting}"

/-- account on the wire: "none" | "plain" | funder|start|end|orig|lockup|vesting|df|dv (8 fields joined by '|') -/
inductive WAcct | none | plain | vest (a : Account)

def parseWAcct (s : String) : Option WAcct :=
  if s == "none" then some .none else if s == "plain" then some .plain else
  match s.splitOn "|" with
  | [f, st, e, o, l, v, df, dv] => do
    let f ← f.toNat?; let st ← st.toInt?; let e ← e.toInt?; let o ← parseAmt o
    let l ← parsePeriods l; let v ← parsePeriods v; let df ← parseAmt df; let dv ← parseAmt dv
    pure (.vest { funder := f, start := st, endT := e, original := o, lockup := l, vesting := v,
                  delegatedFree := df, delegatedVesting := dv })
  | _ => Option.none

def showWAcct (a : Account) : String :=
  s!"{a.funder}|{a.start}|{a.endT}|{showAmt a.original}|{showPeriods a.lockup}|{showPeriods a.vesting}|{showAmt a.delegatedFree}|{showAmt a.delegatedVesting}"

/-- the schedule defaults and the equal-totals test shared by MsgCreateClawbackVestingAccount and
    MsgConvertIntoVestingAccount: (lockup, vesting, coins) or none ("lockup and vesting amounts must be equal") -/
def msgSchedules (lockup vesting : List Period) : Option (List Period × List Period × Amt) :=
  let vc := totalAmount vesting
  let lc := totalAmount lockup
  let lockup' := if !Amt.isZero wireM vc && lockup.isEmpty then [(⟨0, vc⟩ : Period)] else lockup
  let lc' := if !Amt.isZero wireM vc && lockup.isEmpty then vc else lc
  let vesting' := if !Amt.isZero wireM lc' && vesting.isEmpty then [(⟨0, lc'⟩ : Period)] else vesting
  let vc' := if !Amt.isZero wireM lc' && vesting.isEmpty then lc' else vc
  if amtEq wireM vc' lc' then some (lockup', vesting', vc') else Option.none

end Haqq.Driver
