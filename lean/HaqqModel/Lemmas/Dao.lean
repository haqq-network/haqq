/-
  What the list-walking functions of `Model/Dao.lean` compute, pointwise and without invariant, in terms of `amountOf`;
  `Props/C12` adds the invariant.
-/
import HaqqModel.Model.Dao

namespace Haqq.Dao

/-- what a coin list holds of one denomination -/
def amountOf : Coins → Nat → Nat
  | [], _ => 0
  | (d, v) :: rest, x => (if x = d then v else 0) + amountOf rest x

theorem amountOf_append (l1 l2 : Coins) (d : Nat) :
    amountOf (l1 ++ l2) d = amountOf l1 d + amountOf l2 d := by
  fun_induction amountOf l1 d with
  | case1 => exact (Nat.zero_add _).symm
  | case2 d0 v tl d ih => rw [List.cons_append, amountOf, ih, Nat.add_assoc]

theorem amountOf_eq_zero (c : Coins) (d : Nat) (h : ∀ p ∈ c, p.1 ≠ d) : amountOf c d = 0 := by
  fun_induction amountOf c d with
  | case1 => rfl
  | case2 d0 v tl d ih =>
    rw [if_neg (Ne.symm (h _ List.mem_cons_self)), ih fun q hq => h q (List.mem_cons_of_mem _ hq)]

theorem setBal_apply (bal : Nat → Nat → Nat) (a : Nat) (d : Nat) (v : Nat) (a' : Nat) (d' : Nat) :
    setBal bal a d v a' d' = if a' = a ∧ d' = d then v else bal a' d' := by
  unfold setBal upd
  by_cases h1 : a' = a <;> by_cases h2 : d' = d <;> simp [h1, h2]

theorem setHoldersIndex_apply (M : Nat) (bal : Nat → Nat → Nat) (h : Nat → Bool) (a x : Nat) :
    setHoldersIndex M bal h a x = if x = a then anyTo (fun d => decide (0 < bal a d)) M else h x :=
  rfl

theorem modCredit_apply (c : Coins) (m : Nat → Nat) (d : Nat) : modCredit m c d = m d + amountOf c d := by
  fun_induction modCredit m c with
  | case1 => rfl
  | case2 m d0 v tl ih =>
    rw [ih, amountOf, upd_apply, ← Nat.add_assoc]
    split
    · next h => rw [h]
    · rfl

/-- crediting an account is crediting its row, the way the module's own table is credited -/
theorem addCoins_eq (c : Coins) (bal : Nat → Nat → Nat) (a : Nat) :
    addCoins bal a c = upd bal a (modCredit (bal a) c) := by
  fun_induction addCoins bal a c with
  | case1 bal => exact (upd_self bal a).symm
  | case2 bal d v tl ih => rw [ih, setBal, upd_same, upd_upd_same]; rfl

theorem setCoins_eq (l : Coins) (bal : Nat → Nat → Nat) (a : Nat) :
    setCoins bal a l = upd bal a (l.foldl (fun r p => upd r p.1 p.2) (bal a)) := by
  fun_induction setCoins bal a l with
  | case1 bal => exact (upd_self bal a).symm
  | case2 bal d v tl ih => rw [ih, setBal, upd_same, upd_upd_same]; rfl

theorem addCoins_apply (c : Coins) (bal : Nat → Nat → Nat) (a a' d : Nat) :
    addCoins bal a c a' d = bal a' d + (if a' = a then amountOf c d else 0) := by
  rw [addCoins_eq, upd_apply]
  split
  · next h => rw [modCredit_apply, h]
  · rfl

theorem totalCredit_eq_modCredit : totalCredit = modCredit := by
  funext t c
  induction c generalizing t with
  | nil => rfl
  | cons p tl ih => exact ih _

theorem totalCredit_apply (c : Coins) (m : Nat → Nat) (d : Nat) :
    totalCredit m c d = m d + amountOf c d := by
  rw [totalCredit_eq_modCredit, modCredit_apply]

theorem bankDebit_apply (c : Coins) (bank bank' : Nat → Nat → Nat) (a : Nat)
    (h : bankDebit bank a c = some bank') (a' d : Nat) :
    bank' a' d + (if a' = a then amountOf c d else 0) = bank a' d := by
  fun_induction bankDebit bank a c with
  | case1 => cases h; simp only [amountOf, ite_self, Nat.add_zero]
  | case2 bank d0 v tl hle ih =>  -- `hle`: the balance covers `v`
    have := ih h
    rw [setBal_apply] at this
    rw [amountOf]
    by_cases h1 : a' = a
    · by_cases h2 : d = d0
      · simp only [h1, h2, and_self, if_true] at this ⊢
        rw [Nat.add_left_comm, this, Nat.add_sub_of_le hle]
      · simpa only [h1, h2, and_false, if_false, if_true, Nat.zero_add] using this
    · simpa only [h1, false_and, if_false] using this
  | case3 => cases h  -- the balance is short

theorem coinsValid_iff (c : Coins) :
    coinsValid c = true ↔ (∀ p ∈ c, 0 < p.2) ∧ c.Pairwise (fun p q => p.1 < q.1) := by
  fun_induction coinsValid c with
  | case1 | case2 => simp
  | case3 d v d' v' tl ih =>
    simp only [Bool.and_eq_true, decide_eq_true_eq, ih, List.pairwise_cons, List.forall_mem_cons]
    constructor
    · rintro ⟨⟨hv, hlt⟩, ⟨hv', hpos⟩, hlt', hpw⟩
      exact ⟨⟨hv, hv', hpos⟩, ⟨hlt, fun r hr => Nat.lt_trans hlt (hlt' r hr)⟩, hlt', hpw⟩
    · rintro ⟨⟨hv, hv', hpos⟩, ⟨hlt, _⟩, hlt', hpw⟩
      exact ⟨⟨hv, hlt⟩, ⟨hv', hpos⟩, hlt', hpw⟩

theorem coinsValid_cons {d v : Nat} {rest : Coins} (h : coinsValid ((d, v) :: rest) = true) :
    0 < v ∧ coinsValid rest = true ∧ amountOf rest d = 0 := by
  obtain ⟨hpos, hpw⟩ := (coinsValid_iff _).1 h
  rw [List.pairwise_cons] at hpw
  exact ⟨hpos _ List.mem_cons_self, (coinsValid_iff _).2 ⟨fun p hp => hpos p (List.mem_cons_of_mem _ hp), hpw.2⟩,
    amountOf_eq_zero _ _ fun p hp => Nat.ne_of_gt (hpw.1 p hp)⟩

/-- The leftovers are computed from the row `b` they were read from, not from the row they are written into: writing
    them sets the touched denominations to `b d - amount d`, whatever the row holds by then. -/
theorem write_leftovers (c : Coins) (b : Nat → Nat) (l : Coins) (hv : coinsValid c = true)
    (h : leftovers b c = .ok l) :
    (∀ d, amountOf c d ≤ b d) ∧
    ∀ (r : Nat → Nat) (d : Nat),
      l.foldl (fun r p => upd r p.1 p.2) r d = if 0 < amountOf c d then b d - amountOf c d else r d := by
  -- of the branches of `leftovers`, one skips a zero amount (no valid list has one), three fail, one succeeds
  fun_induction leftovers b c generalizing l with
  | case1 => cases h; exact ⟨fun d => Nat.zero_le _, fun r d => (if_neg (Nat.lt_irrefl 0)).symm⟩
  | case2 => exact absurd (coinsValid_cons hv).1 (Nat.lt_irrefl 0)
  | case3 | case4 | case5 => cases h
  | case6 d0 v tl _ _ hbv l' hl' ih =>  -- `hbv`: the row covers `v`; `hl'`: the rest gave `l'`
    cases h
    obtain ⟨hpos, hvt, hz⟩ := coinsValid_cons hv
    obtain ⟨hle, hset⟩ := ih l' hvt hl'
    refine ⟨fun d => ?_, fun r d => ?_⟩
    · rw [amountOf]
      split
      · next h2 => rw [h2, hz]; exact Nat.le_of_not_lt hbv
      · rw [Nat.zero_add]; exact hle d
    · rw [List.foldl_cons, hset, upd_apply, amountOf]
      by_cases h2 : d = d0
      · simp only [h2, hz, Nat.lt_irrefl, if_false, if_true, Nat.add_zero, hpos]
      · simp only [h2, if_false, Nat.zero_add]

theorem leftovers_error_keeps (b : Nat → Nat) (c : Coins) (e : Err) (h : leftovers b c = .error e) :
    e = .insufficientFunds := by
  -- a branch that fails says so itself (`case3`, `case4`) or hands on the failure of the rest (`case5`)
  fun_induction leftovers b c with
  | case1 | case6 => cases h  -- no coin left, or the rest went through: `.ok`
  | case2 _ _ ih => exact ih h  -- a zero amount is skipped
  | case3 | case4 => cases h; rfl
  | case5 _ _ _ _ _ _ _ hrest ih => cases h; exact ih hrest  -- `hrest`: the rest failed with `e`

theorem amountOf_accountCoins (b : Nat → Nat) (M : Nat) (d : Nat) :
    amountOf (accountCoins b M) d = if d < M then b d else 0 := by
  induction M with
  | zero => rfl
  | succ m ih =>
    have e : amountOf (if 0 < b m then [(m, b m)] else []) d = if d = m then b m else 0 := by
      split
      · exact Nat.add_zero _
      · next h => rw [Nat.eq_zero_of_not_pos h, ite_self]; rfl
    rw [accountCoins, amountOf_append, ih, e]
    rcases Nat.lt_trichotomy d m with h | h | h
    · rw [if_pos h, if_neg (Nat.ne_of_lt h), if_pos (Nat.lt_succ_of_lt h), Nat.add_zero]
    · subst h; rw [if_neg (Nat.lt_irrefl d), if_pos rfl, if_pos (Nat.lt_succ_self d), Nat.zero_add]
    · rw [if_neg (Nat.lt_asymm h), if_neg (Nat.ne_of_gt h), if_neg (Nat.not_lt.2 h)]

theorem accountCoins_eq (b : Nat → Nat) (M : Nat) :
    accountCoins b M = ((List.range M).filter fun m => 0 < b m).map fun m => (m, b m) := by
  induction M with
  | zero => rfl
  | succ m ih =>
    rw [accountCoins, ih, List.range_succ, List.filter_append, List.map_append]
    congr 1
    by_cases h : 0 < b m <;> simp [h]

theorem accountCoins_valid (b : Nat → Nat) (M : Nat) : coinsValid (accountCoins b M) = true := by
  rw [coinsValid_iff, accountCoins_eq]
  refine ⟨fun p hp => ?_, (List.pairwise_lt_range.filter _).map _ fun _ _ h => h⟩
  obtain ⟨m, hm, rfl⟩ := List.mem_map.1 hp
  exact of_decide_eq_true (List.mem_filter.1 hm).2

end Haqq.Dao
