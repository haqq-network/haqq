/-
  ConjunctPeriods' loop `conj`, the capping merge.  Every step (`Sched.merge_induct`) is one `consume` (defined next to
  that induction, whose statement mentions it): `conjEmit` followed by the rest of the loop as a continuation, so each
  fact needs one step lemma.
-/
import HaqqModel.Lemmas.Schedule

namespace Haqq.Sched

/-- the loop invariant `res = min totA totB` (on the denominations in use) makes the `IsAllLTE` guard of the next
    step true, whichever totals have grown -/
theorem guard_step {M : Nat} {totA totB totA' totB' res : Amt} (hinv : ∀ d, d < M → res d = min (totA d) (totB d))
    (hA : ∀ d, totA d ≤ totA' d) (hB : ∀ d, totB d ≤ totB' d) (d : Nat) (hd : d < M) :
    res d ≤ min (totA' d) (totB' d) :=
  hinv d hd ▸ Nat.le_min.2 ⟨Nat.le_trans (Nat.min_le_left ..) (hA d), Nat.le_trans (Nat.min_le_right ..) (hB d)⟩

theorem conjEmit_of_le {M : Nat} {totA totB res : Amt} (n e : Int)
    (hle : ∀ d, d < M → res d ≤ min (totA d) (totB d)) :
    conjEmit M n e totA totB res =
      if Amt.isZero M (Amt.sub (Amt.min totA totB) res) then (none, e, res)
      else (some ⟨n - e, Amt.sub (Amt.min totA totB) res⟩, n, Amt.add res (Amt.sub (Amt.min totA totB) res)) := by
  have hguard : Amt.allLE M res (Amt.min totA totB) = true := (Amt.allLE_iff ..).2 hle
  unfold conjEmit
  simp only [hguard, if_true]
  cases Amt.isZero M (Amt.sub (Amt.min totA totB) res) <;> rfl

/-- the two outcomes of a step whose guard holds: the minimum has not moved on the denominations in use and nothing is
    emitted, or its increase is emitted -/
theorem consume_cases {M : Nat} {totA totB res : Amt} (n e : Int) (k : Int → Amt → List Period)
    (hle : ∀ d, d < M → res d ≤ min (totA d) (totB d)) :
    (consume M n e totA totB res k = k e res ∧ ∀ d, d < M → res d = min (totA d) (totB d)) ∨
    ∃ diff res', consume M n e totA totB res k = ⟨n - e, diff⟩ :: k n res' ∧
      ∀ d, d < M → res' d = min (totA d) (totB d) ∧ diff d + res d = res' d := by
  unfold consume
  rw [conjEmit_of_le n e hle]
  cases hz : Amt.isZero M (Amt.sub (Amt.min totA totB) res) with
  | true =>
    exact .inl ⟨rfl, fun d hd => Nat.le_antisymm (hle d hd) (Nat.le_of_sub_eq_zero ((Amt.isZero_iff ..).1 hz d hd))⟩
  | false =>
    rw [if_neg Bool.false_ne_true]
    exact .inr ⟨_, _, rfl, fun d hd => ⟨Nat.add_sub_cancel' (hle d hd), Nat.add_comm ..⟩⟩

theorem consume_WF {M : Nat} {totA totB res : Amt} {n e : Int} {k : Int → Amt → List Period}
    (he : e ≤ n) (hk : ∀ e' res', e' ≤ n → WF (k e' res')) : WF (consume M n e totA totB res k) := by
  unfold consume
  fun_cases conjEmit M n e totA totB res with
  | case1 => exact WF_cons (Int.sub_nonneg_of_le he) (hk _ _ (Int.le_refl n))
  | _ => exact hk _ _ he -- nothing emitted

/-- the step of the loop invariant "what was emitted so far + what the rest of the loop emits by `t` = `G`": `G` is the
    value the continuation reaches at `t` (`hk`), and before `n` it is still the new minimum (`hG`) -/
theorem consume_read {M : Nat} {totA totB res : Amt} {n e : Int} {k : Int → Amt → List Period} {t : Int} {d G : Nat}
    (hle : ∀ d, d < M → res d ≤ min (totA d) (totB d)) (hd : d < M)
    (hk : ∀ e' res', (∀ d, d < M → res' d = min (totA d) (totB d)) → readLoop e' (k e' res') t d + res' d = G)
    (hG : t < n → G = min (totA d) (totB d)) :
    readLoop e (consume M n e totA totB res k) t d + res d = if t < n then res d else G := by
  rcases consume_cases n e k hle with ⟨hc, hm⟩ | ⟨diff, res', hc, hm⟩ <;> rw [hc]
  · rw [hk e res hm]
    split
    · rename_i h; rw [hG h, hm d hd]
    · rfl
  · rw [readLoop_emit]
    split
    · exact Nat.zero_add _
    · rw [← hk n res' fun d hd => (hm d hd).1, ← (hm d hd).2]
      exact (Nat.add_assoc ..).trans (Nat.add_left_comm ..)

/-- emitted lengths are differences of non-decreasing times, whatever the guard decides -/
theorem conj_WF (M : Nat) (tA tB e : Int) (totA totB res : Amt) (as bs : List Period)
    (hA : WF as) (hB : WF bs) (nA : Next tA e as) (nB : Next tB e bs) :
    WF (conj M tA tB e totA totB res as bs) := by
  induction tA, as, tB, bs using merge_induct generalizing e totA totB res with
  | nil => rw [conj]; exact WF_nil
  | step n sA sB hn _ hc ih =>
    rw [hc]
    exact consume_WF (hn.elim (·.ge nA) (·.ge nB)) fun e' res' he' =>
      ih e' _ _ res' (sA.wf hA) (sB.wf hB) ((sA.next hA).mono he') ((sB.next hB).mono he')

/-- **pointwise minimum**: what the loops of ConjunctPeriods emit by `t`, plus what had been emitted before, is the
    minimum of what the two sides have released by `t` -/
theorem conj_read (M : Nat) (tA tB e : Int) (totA totB res : Amt) (as bs : List Period) (t : Int) (d : Nat)
    (hd : d < M) (hA : WF as) (hB : WF bs) (hinv : ∀ d, d < M → res d = min (totA d) (totB d)) :
    readLoop e (conj M tA tB e totA totB res as bs) t d + res d =
      min (totA d + readLoop tA as t d) (totB d + readLoop tB bs t d) := by
  induction tA, as, tB, bs using merge_induct generalizing e totA totB res with
  | nil => rw [conj, hinv d hd]; exact Nat.zero_add _
  | step n sA sB _ _ hc ih =>
    -- `G` of `consume_read` is the right side of `ih`: the minimum over the advanced sides with the new totals
    rw [hc, consume_read ?hle hd ?hk ?hG, sA.read, sB.read]
    case hle => exact guard_step hinv (fun _ => Nat.le_add_right ..) fun _ => Nat.le_add_right ..
    case hk => exact fun e' res' h => ih e' _ _ res' (sA.wf hA) (sB.wf hB) h
    case hG =>
      -- before `n` what is left of either side has released nothing
      intro h
      rw [readLoop_zero_of_next (sA.next hA) h, readLoop_zero_of_next (sB.next hB) h]; rfl
    split
    · rw [hinv d hd]; rfl
    · rw [Amt.add_apply, Amt.add_apply, Nat.add_assoc, Nat.add_assoc]

end Haqq.Sched
