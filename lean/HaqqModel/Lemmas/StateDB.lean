/-
  What the definitions of `Model/StateDB.lean` compute, without any invariant; `Props/C05`, `C02`, `C05Storage` add the
  invariants.
-/
import HaqqModel.Model.StateDB

namespace Haqq.SDB

/-- `DB.push` and `undoTop` compute the new dirty count in a strict `let` before the closure is built (see the remark at
    `DB.push`); these are the shapes the proofs unfold them to. -/
theorem DB.push_def (db : DB) (e : Entry) : db.push e =
    { db with journal := e :: db.journal,
              dirties := match e.dirtied with | some a => upd db.dirties a (db.dirties a + 1) | none => db.dirties } := by
  unfold DB.push; cases e.dirtied <;> rfl

theorem undoTop_def (db : DB) (e : Entry) : undoTop db e =
    { undo db e with dirties := match e.dirtied with
                                | some a => upd (undo db e).dirties a ((undo db e).dirties a - 1)
                                | none => (undo db e).dirties } := by
  unfold undoTop; cases e.dirtied <;> rfl

theorem get_of_objs {db : DB} {a : Nat} {o : Obj} (h : db.objs a = some o) : db.get a = some o := by
  simp only [DB.get, h]

theorem get_eq_none {db : DB} {a : Nat} : db.get a = none ↔ db.objs a = none ∧ db.k.exist a = false := by
  fun_cases DB.get db a <;> simp only [*, reduceCtorEq, false_and, and_false, true_and]

theorem get_eq_some {db : DB} {a : Nat} {o : Obj} (h : db.get a = some o) :
    db.objs a = some o ∨ db.objs a = none ∧ db.k.exist a = true ∧
      o = { bal := db.k.bal a, nonce := db.k.nonce a, suicided := false, stor := db.k.store a, base := db.k.store a } := by
  revert h
  fun_cases DB.get db a with
  | case1 o' ho => exact fun h => .inl (ho.trans h)  -- cached
  | case2 ho he => exact fun h => .inr ⟨ho, he, (Option.some.inj h).symm⟩  -- read from the keeper's account
  | case3 => nofun  -- no account

theorem get_cached {db d : DB} {a : Nat} (hk : d.k = db.k) (h : d.objs a = db.get a) : d.get a = db.get a := by
  revert h
  fun_cases DB.get db a with
  | case1 | case2 => exact get_of_objs  -- `db.get a` is an object, now cached
  | case3 ho he => exact fun h => get_eq_none.2 ⟨h, hk ▸ Bool.eq_false_iff.2 he⟩  -- neither cached nor an account

theorem load_eq (db : DB) (a : Nat) : db.load a = { db with objs := upd db.objs a (db.get a) } := by
  unfold DB.get
  fun_cases DB.load db a with
  | case1 o ho => rw [ho, upd_eq_self ho]
  | case2 ho he => rw [ho, if_pos he]
  | case3 ho he => rw [ho, if_neg he, upd_eq_self ho]

theorem load_fields (db : DB) (a : Nat) :
    (db.load a).objs = upd db.objs a (db.get a) ∧ (db.load a).k = db.k ∧ (db.load a).dirties = db.dirties := by
  rw [load_eq]; exact ⟨rfl, rfl, rfl⟩

theorem load_get (db : DB) (a b : Nat) : (db.load a).get b = db.get b := by
  rw [load_eq]
  by_cases hb : b = a
  · subst hb; exact get_cached rfl (upd_same _ _ _)
  · simp only [DB.get, upd_other hb]

theorem objs_push_setObj (db : DB) (e : Entry) (a : Nat) (o' : Obj) :
    ((db.push e).setObj a o').objs = upd db.objs a (some o') := by rw [DB.push_def]; rfl

theorem k_push_setObj (db : DB) (e : Entry) (a : Nat) (o' : Obj) : ((db.push e).setObj a o').k = db.k := by
  rw [DB.push_def]; rfl

theorem dirties_push_setObj (db : DB) (e : Entry) (a : Nat) (o' : Obj) :
    ((db.push e).setObj a o').dirties =
      match e.dirtied with | some b => upd db.dirties b (db.dirties b + 1) | none => db.dirties := by
  rw [DB.push_def]; rfl

theorem get_push_setObj (db : DB) (e : Entry) (a b : Nat) (o' : Obj) :
    ((db.push e).setObj a o').get b = if b = a then some o' else db.get b := by
  unfold DB.get
  rw [objs_push_setObj, k_push_setObj]
  by_cases hb : b = a
  · rw [if_pos hb, hb, upd_same]
  · rw [if_neg hb, upd_other hb]

/-- `Writes db op a e o'`: `op`, having found `db.get a`, journals `e` and installs `o'` for `a`; each constructor pairs a
    branch of `mstepCore` with the entry `undo` is later handed -/
inductive Writes (db : DB) : MOp → Nat → Entry → Obj → Prop
  | create {a : Nat} (h : db.get a = none) : Writes db (.create a) a (.create a)
      { bal := 0, nonce := 0, suicided := false, stor := db.k.store a, base := db.k.store a }
  | setBal {a : Nat} {o : Obj} (h : db.get a = some o) (v : Nat) :
      Writes db (.setBal a v) a (.balance a o.bal) { o with bal := v }
  | setNonce {a : Nat} {o : Obj} (h : db.get a = some o) (v : Nat) :
      Writes db (.setNonce a v) a (.nonce a o.nonce) { o with nonce := v }
  | setState {a : Nat} {o : Obj} (h : db.get a = some o) (k v : Nat) :
      Writes db (.setState a k v) a (.storage a k (o.stor k)) { o with stor := upd o.stor k v }
  | suicide {a : Nat} {o : Obj} (h : db.get a = some o) :
      Writes db (.suicide a) a (.suicide a o.suicided o.bal) { o with suicided := true, bal := 0 }
  | createNew {a : Nat} (h : db.get a = none) : Writes db (.createAccount a) a (.create a)
      { bal := 0, nonce := 0, suicided := false, stor := db.k.store a, base := db.k.store a }
  | createOver {a : Nat} {o : Obj} (h : db.get a = some o) : Writes db (.createAccount a) a (.reset a o)
      { bal := o.bal, nonce := 0, suicided := false, stor := db.k.store a, base := db.k.store a }

theorem Writes.addr {db : DB} {op : MOp} {a : Nat} {e : Entry} {o' : Obj} (h : Writes db op a e o') : op.addr = some a := by
  cases h <;> rfl

/-- `d` is `db` after a journalled change of a counter or an access list, which `undo` takes back -/
structure WritesAux (db : DB) (e : Entry) (d : DB) : Prop where
  clean : e.dirtied = none
  /-- but for these four fields `d` is `db.push e` -/
  frame : d = { db.push e with refund := d.refund, logs := d.logs, accA := d.accA, accS := d.accS }
  undo : undo d e = db.push e

/-- a micro-operation does nothing, or journals one entry and installs one object (`Writes`), or journals one change of
    the refund counter, the logs or an access list (`WritesAux`) -/
theorem mstepCore_cases (db : DB) (op : MOp) :
    mstepCore db op = db ∨
    (∃ a e o', Writes db op a e o' ∧ mstepCore db op = (db.push e).setObj a o') ∨
    (∃ e, WritesAux db e (mstepCore db op)) := by
  fun_cases mstepCore db op with
  -- nothing to do: the account is there (`create`) or is not (the setters, `suicide`), the slot holds `v`, already listed
  | case1 | case4 | case6 | case7 | case9 | case13 | case14 | case16 => exact .inl rfl
  | case2 a h => exact .inr (.inl ⟨_, _, _, .create h, rfl⟩)
  | case3 a v o h => exact .inr (.inl ⟨_, _, _, .setBal h _, rfl⟩)
  | case5 a v o h => exact .inr (.inl ⟨_, _, _, .setNonce h _, rfl⟩)
  | case8 a k v o h _ => exact .inr (.inl ⟨_, _, _, .setState h _ _, rfl⟩)
  | case10 => exact .inr (.inr ⟨.refund db.refund, rfl, rfl, rfl⟩)
  | case11 => exact .inr (.inr ⟨.log, rfl, rfl, rfl⟩)
  | case12 a o h => exact .inr (.inl ⟨_, _, _, .suicide h, rfl⟩)
  -- (`+zetaDelta`: `fun_cases` leaves the `db.push _` of `{ db.push _ with … }` as a `let`-bound local)
  | case15 a h =>
    exact .inr (.inr ⟨.accAddr a, rfl, rfl,
      by simp +zetaDelta only [undo, upd_upd_same, upd_eq_self (Bool.eq_false_iff.2 h), DB.push_def]⟩)
  | case17 a k h =>
    exact .inr (.inr ⟨.accSlot a k, rfl, rfl,
      by simp +zetaDelta only [undo, upd_same, upd_upd_same, upd_eq_self (Bool.eq_false_iff.2 h), upd_self, DB.push_def]⟩)
  | case18 a h => exact .inr (.inl ⟨_, _, _, .createNew h, rfl⟩)
  | case19 a o h => exact .inr (.inl ⟨_, _, _, .createOver h, rfl⟩)

/-- what no micro-operation touches: the keeper and the book-keeping of the snapshots; the journal only grows -/
structure Framed (db d : DB) : Prop where
  k : d.k = db.k
  revisions : d.revisions = db.revisions
  nextRev : d.nextRev = db.nextRev
  journal_le : db.journal.length ≤ d.journal.length

theorem Framed.refl (db : DB) : Framed db db := ⟨rfl, rfl, rfl, Nat.le_refl _⟩

theorem Framed.trans {db d d' : DB} (h : Framed db d) (h' : Framed d d') : Framed db d' :=
  ⟨h'.k.trans h.k, h'.revisions.trans h.revisions, h'.nextRev.trans h.nextRev, Nat.le_trans h.journal_le h'.journal_le⟩

theorem mstepCore_frame (db : DB) (op : MOp) : Framed db (mstepCore db op) := by
  rcases mstepCore_cases db op with h | ⟨a, e, o', _, h⟩ | ⟨e, h⟩
  · rw [h]; exact .refl db
  · rw [h, DB.push_def]; exact ⟨rfl, rfl, rfl, Nat.le_succ _⟩
  · rw [h.frame, DB.push_def]; exact ⟨rfl, rfl, rfl, Nat.le_succ _⟩

theorem mstep_frame (db : DB) (op : MOp) : Framed db (mstep db op) := by
  fun_cases mstep db op with
  | case1 a => exact .trans (by rw [load_eq]; exact ⟨rfl, rfl, rfl, Nat.le_refl _⟩) (mstepCore_frame _ op)
  | case2 => exact mstepCore_frame db op

theorem mstepCore_objs_none {db : DB} {op : MOp} {b : Nat} (h : (mstepCore db op).objs b = none) : db.objs b = none := by
  rcases mstepCore_cases db op with e | ⟨a, e, o', _, e⟩ | ⟨e, he⟩
  · rwa [e] at h
  · rw [e, objs_push_setObj] at h
    by_cases hb : b = a
    · rw [hb, upd_same] at h; cases h
    · rwa [upd_other hb] at h
  · rwa [he.frame, DB.push_def] at h

/-- `undo` takes a write back, provided what it wrote over was in the cache (an object that `get` only read from the
    keeper is not: the journal does not record loads) -/
theorem undo_write {db : DB} {op : MOp} {a : Nat} {e : Entry} {o' : Obj} (h : Writes db op a e o')
    (hs : db.get a = db.objs a) :
    undo ((db.push e).setObj a o') e = db.push e := by
  cases h with
  | create h | setBal h _ | setNonce h _ | setState h _ _ | suicide h | createNew h | createOver h =>
    rw [hs] at h
    simp only [undo, get_push_setObj, eq_self, if_true]
    simp only [DB.setObj, DB.push_def, upd_upd_same, upd_self, upd_eq_self h]

theorem undoTop_of_undo {db d : DB} {e : Entry} (h : undo d e = db.push e) :
    undoTop d e = { db with journal := e :: db.journal } := by
  rw [undoTop_def, h, DB.push_def]
  cases e.dirtied with
  | none => rfl
  | some a => simp only [upd_same, Nat.add_sub_cancel, upd_upd_same, upd_self]

theorem revertEntries_stop (d : DB) (es : List Entry) : revertEntries d es es.length = { d with journal := es } := by
  cases es with
  | nil => rfl
  | cons e es => exact if_pos (Nat.le_refl _)

theorem revert_noop (db : DB) : revertJournal db db.journal.length = db :=
  revertEntries_stop db db.journal

theorem revert_top (d : DB) (e : Entry) (es : List Entry) (h : d.journal = e :: es) :
    revertJournal d es.length = { undoTop d e with journal := es } := by
  unfold revertJournal
  rw [h, revertEntries, if_neg (Nat.not_succ_le_self _)]
  exact revertEntries_stop _ _

theorem revert_mstepCore (db : DB) (op : MOp) (h : ∀ a, op.addr = some a → db.get a = db.objs a) :
    revertJournal (mstepCore db op) db.journal.length = db := by
  rcases mstepCore_cases db op with e | ⟨a, e, o', hw, he⟩ | ⟨e, he⟩
  · rw [e]; exact revert_noop db
  · rw [he, revert_top _ e db.journal (by rw [DB.push_def]; rfl), undoTop_of_undo (undo_write hw (h a hw.addr))]
  · rw [revert_top _ e db.journal (by rw [he.frame, DB.push_def]), undoTop_of_undo he.undo]

theorem undo_frame (d : DB) (e : Entry) (j : List Entry) (R : List (Nat × Nat)) (n : Nat) :
    undo { d with journal := j, revisions := R, nextRev := n } e =
      { undo d e with journal := j, revisions := R, nextRev := n } := by
  have hg : ∀ a, DB.get { d with journal := j, revisions := R, nextRev := n } a = d.get a := fun _ => rfl
  -- (`*`: `hg` and what the branch found at `d.get a`)
  fun_cases undo d e <;> simp only [undo, *] <;> rfl

theorem undoTop_frame (d : DB) (e : Entry) (j : List Entry) (R : List (Nat × Nat)) (n : Nat) :
    undoTop { d with journal := j, revisions := R, nextRev := n } e =
      { undoTop d e with journal := j, revisions := R, nextRev := n } := by
  rw [undoTop_def, undoTop_def, undo_frame]

/-- `j` does not occur on the right: `revertEntries` overwrites the journal on both of its exits -/
theorem revertEntries_frame (es : List Entry) (d : DB) (j : List Entry) (R : List (Nat × Nat)) (n k : Nat) :
    revertEntries { d with journal := j, revisions := R, nextRev := n } es k =
      { revertEntries d es k with revisions := R, nextRev := n } := by
  fun_induction revertEntries d es k generalizing j with
  | case1 => rfl  -- no entry
  | case2 _ _ _ _ h => exact if_pos h  -- `h`: no more than `k` entries are left
  | case3 _ _ _ _ h ih => rw [revertEntries, if_neg h, undoTop_frame, ih]  -- the newest entry is undone

theorem revertEntries_journal_irrel (es : List Entry) (d : DB) (j : List Entry) (n : Nat) :
    revertEntries { d with journal := j } es n = revertEntries d es n :=
  (revertEntries_frame es d j d.revisions d.nextRev n).trans (revertEntries_frame es d d.journal d.revisions d.nextRev n).symm

theorem revertJournal_frame (d : DB) (R : List (Nat × Nat)) (n k : Nat) :
    revertJournal { d with revisions := R, nextRev := n } k = { revertJournal d k with revisions := R, nextRev := n } :=
  revertEntries_frame d.journal d d.journal R n k

theorem revertEntries_trans (es : List Entry) (db : DB) (m n : Nat) (hnm : n ≤ m) :
    revertEntries (revertEntries db es m) (revertEntries db es m).journal n = revertEntries db es n := by
  fun_induction revertEntries db es m with
  | case1 => rfl
  | case2 db e rest m h => exact revertEntries_journal_irrel (e :: rest) db (e :: rest) n  -- stops at `m` entries
  | case3 db e rest m h ih => rw [ih hnm, revertEntries, if_neg (fun h' => h (Nat.le_trans h' hnm))]

theorem revertJournal_trans (db : DB) (m n : Nat) (h : n ≤ m) :
    revertJournal (revertJournal db m) n = revertJournal db n :=
  revertEntries_trans db.journal db m n h

/-- `R` is a variable so that the caller names the list it wants to read in the result (`db.revisions` in
    `nested_snapshot_revert`, `[]` in `flush_then_revert_counterexample`) and proves the filter equation on the side -/
theorem revertTo_eq (d : DB) (id n : Nat) (R : List (Nat × Nat)) (hfind : d.revisions.find? (·.1 == id) = some (id, n))
    (hfilter : d.revisions.filter (fun r => decide (r.1 < id)) = R) :
    revertTo d id = some { revertJournal d n with revisions := R } := by
  unfold revertTo; rw [hfind, hfilter]

theorem writeSlot_eq (o : Obj) (a : Nat) (k : Keeper) (x : Nat) : writeSlot o a k x =
    { k with store := upd k.store a fun key =>
        if key = x ∧ o.stor key ≠ o.base key then o.stor key else k.store a key } := by
  fun_cases writeSlot o a k x with
  | case1 h => rw [upd_eq_self (funext fun key => (if_neg fun c => c.2 (c.1 ▸ h)).symm)]
  | case2 h =>
    refine congrArg (fun f => { k with store := upd k.store a f }) (funext fun key => ?_)
    by_cases hx : key = x
    · rw [hx, upd_same, if_pos ⟨rfl, h⟩]
    · rw [upd_other hx, if_neg fun c => hx c.1]

theorem writeSlots_eq (o : Obj) (a : Nat) (keys : List Nat) : ∀ k : Keeper, keys.foldl (writeSlot o a) k =
    { k with store := upd k.store a fun key =>
        if key ∈ keys ∧ o.stor key ≠ o.base key then o.stor key else k.store a key } := by
  induction keys with
  | nil =>
    intro k
    rw [upd_eq_self (funext fun key => (if_neg (fun h => nomatch h.1)).symm)]
    rfl
  | cons x xs ih =>
    intro k
    rw [List.foldl_cons, ih, writeSlot_eq]
    dsimp only
    rw [upd_upd_same, upd_same]
    refine congrArg (fun f => { k with store := upd k.store a f }) (funext fun key => ?_)
    -- a slot listed later, the slot `x`, or neither
    by_cases h1 : key ∈ xs ∧ o.stor key ≠ o.base key
    · rw [if_pos h1, if_pos ⟨List.mem_cons_of_mem _ h1.1, h1.2⟩]
    · rw [if_neg h1]
      by_cases h2 : key = x ∧ o.stor key ≠ o.base key
      · rw [if_pos h2, if_pos ⟨h2.1 ▸ List.mem_cons_self, h2.2⟩]
      · rw [if_neg h2, if_neg fun c => (List.mem_cons.1 c.1).elim (fun e => h2 ⟨e, c.2⟩) fun m => h1 ⟨m, c.2⟩]

/-- SetBalance mints or burns the difference: the supply moves with the sum of the balances -/
theorem setBalance_acct (k : Keeper) (a v N : Nat) (h : a < N) :
    (k.setBalance a v).supply + (sumTo k.bal N : Int) = k.supply + (sumTo (k.setBalance a v).bal N : Int) := by
  have := sumTo_upd k.bal a v N h
  simp only [Keeper.setBalance]
  lia

/-- Commit of `a` changes the keeper at `a` only, and its balance and the supply as a SetBalance does -/
theorem commitOne_shape (db : DB) (k : Keeper) (a : Nat) (keys : List Nat) :
    (∃ v, (commitOne db k a keys).bal = (k.setBalance a v).bal ∧
          (commitOne db k a keys).supply = (k.setBalance a v).supply) ∧
    ∀ b, b ≠ a → (commitOne db k a keys).bal b = k.bal b ∧ (commitOne db k a keys).exist b = k.exist b ∧
      (commitOne db k a keys).store b = k.store b := by
  fun_cases commitOne db k a keys with
  | case1 | case3 =>  -- nothing written: a SetBalance to the balance there is
    exact ⟨⟨k.bal a, (upd_self _ _).symm, (Int.add_sub_cancel _ _).symm⟩, fun _ _ => ⟨rfl, rfl, rfl⟩⟩
  | case2 => exact ⟨⟨0, rfl, rfl⟩, fun b hb => ⟨upd_other hb, upd_other hb, upd_other hb⟩⟩  -- DeleteAccount
  | case4 o =>  -- a live object is written
    rw [writeSlots_eq]
    exact ⟨⟨o.bal, rfl, rfl⟩, fun b hb => ⟨upd_other hb, upd_other hb, upd_other hb⟩⟩

theorem commitOne_acct (db : DB) (k : Keeper) (a N : Nat) (keys : List Nat) (h : a < N) :
    (commitOne db k a keys).supply + (sumTo k.bal N : Int) = k.supply + (sumTo (commitOne db k a keys).bal N : Int) := by
  obtain ⟨⟨v, hb, hs⟩, _⟩ := commitOne_shape db k a keys
  rw [hb, hs]
  exact setBalance_acct k a v N h

theorem commitOne_live {db : DB} {a : Nat} {o : Obj} (k : Keeper) (keys : List Nat) (ho : db.objs a = some o)
    (hs : o.suicided = false) :
    (commitOne db k a keys).bal a = o.bal ∧ (commitOne db k a keys).exist a = true ∧
    ∀ key, (commitOne db k a keys).store a key =
      if key ∈ keys ∧ o.stor key ≠ o.base key then o.stor key else k.store a key := by
  unfold commitOne
  simp only [ho, hs, Bool.false_eq_true, if_false, writeSlots_eq]
  exact ⟨upd_same _ _ _, upd_same _ _ _, fun key => congrFun (upd_same _ _ _) key⟩

/-- Commit writes every dirty address on its own: what an observation of the keeper that only the Commit of `b` can
    change shows after the addresses below `n`; `k'` is the keeper the Commit of `b` works on -/
theorem commit_obs {β : Type} (obs : Keeper → β) (db : DB) (keys : List Nat) (b : Nat)
    (other : ∀ k a, a ≠ b → obs (commitOne db k a keys) = obs k) :
    ∃ k', obs k' = obs db.k ∧ ∀ n, obs (commit db (List.range n) keys).k =
      if b < n ∧ 0 < db.dirties b then obs (commitOne db k' b keys) else obs db.k := by
  obtain ⟨k', hk', h⟩ := foldl_range_obs (fun k a => if db.dirties a > 0 then commitOne db k a keys else k) obs b
    (fun k a ha => by split; exact other k a ha; rfl) db.k
  refine ⟨k', hk', fun n => (h n).trans ?_⟩
  by_cases hd : 0 < db.dirties b
  · simp only [hd, and_true, if_true]
  · simp only [hd, and_false, if_false, hk', ite_self]

theorem flushObj_same (o : Obj) (keys : List Nat) :
    (flushObj o keys).bal = o.bal ∧ (flushObj o keys).suicided = o.suicided ∧ (flushObj o keys).nonce = o.nonce ∧
    (flushObj o keys).stor = o.stor := by
  fun_cases flushObj o keys <;> exact ⟨rfl, rfl, rfl, rfl⟩

/-- Commit changes a cached object only in what it remembers as committed storage -/
theorem commit_objs (db : DB) (addrs keys : List Nat) (a : Nat) :
    ∃ f : Obj → Obj, (∀ o, (f o).bal = o.bal ∧ (f o).suicided = o.suicided) ∧
      (commit db addrs keys).objs a = (db.objs a).map f := by
  simp only [commit]
  split
  · exact ⟨(flushObj · keys), fun o => ⟨(flushObj_same o keys).1, (flushObj_same o keys).2.1⟩, rfl⟩
  · exact ⟨id, fun _ => ⟨rfl, rfl⟩, Option.map_id'.symm⟩

/-- the object `syncOne` leaves: a live object of an existing account takes the bank's balance -/
def syncObj (k : Keeper) (a : Nat) (o : Obj) : Obj :=
  if o.suicided = false ∧ k.exist a = true then { o with bal := k.bal a } else o

theorem syncObj_live {k : Keeper} {a : Nat} {o : Obj} (hs : o.suicided = false) (he : k.exist a = true) :
    syncObj k a o = { o with bal := k.bal a } :=
  if_pos ⟨hs, he⟩

theorem syncObj_eq_self {k : Keeper} {a : Nat} {o : Obj}
    (h : o.suicided = true ∨ k.exist a = false ∨ o.bal = k.bal a) : syncObj k a o = o := by
  rcases h with h | h | h
  · exact if_neg fun c => Bool.noConfusion (h.symm.trans c.1)
  · exact if_neg fun c => Bool.noConfusion (h.symm.trans c.2)
  · rw [syncObj, ← h]; exact ite_self _

theorem syncOne_cases (db : DB) (a : Nat) :
    (syncOne db a = db ∧ ∀ o, db.objs a = some o → syncObj db.k a o = o) ∨
    ∃ o, db.objs a = some o ∧
      syncOne db a = (db.push (.balance a o.bal)).setObj a (syncObj db.k a o) := by
  have idle {o : Obj} (ho : db.objs a = some o) (h : syncObj db.k a o = o) :
      ∀ o', db.objs a = some o' → syncObj db.k a o' = o' := fun _ ho' => Option.some.inj (ho.symm.trans ho') ▸ h
  fun_cases syncOne db a with
  | case1 ho => exact .inl ⟨rfl, fun o h => nomatch ho.symm.trans h⟩  -- not cached
  | case2 o ho hs => exact .inl ⟨rfl, idle ho (syncObj_eq_self (.inl hs))⟩  -- self-destructed
  | case3 o ho _ he => exact .inl ⟨rfl, idle ho (syncObj_eq_self (.inr (.inl he)))⟩  -- no account
  | case4 o ho _ _ hb => exact .inl ⟨rfl, idle ho (syncObj_eq_self (.inr (.inr hb)))⟩  -- already in step
  | case5 o ho hs he =>  -- live, of an existing account, out of step: a journalled balance change
    exact .inr ⟨o, ho, by rw [syncObj_live (eq_false_of_ne_true hs) (eq_true_of_ne_false he)]⟩

theorem syncOne_at (db : DB) (a b : Nat) :
    (syncOne db a).k = db.k ∧
    (syncOne db a).objs b = (if b = a then (db.objs b).map (syncObj db.k b) else db.objs b) ∧
    (b ≠ a ∨ db.objs b = none → (syncOne db a).dirties b = db.dirties b) := by
  rcases syncOne_cases db a with ⟨e, hs⟩ | ⟨o, ho, e⟩ <;> rw [e]
  · refine ⟨rfl, ?_, fun _ => rfl⟩
    split
    · cases ho : db.objs b with
      | none => rfl
      | some o => rw [Option.map_some, ‹b = a›, hs o (‹b = a› ▸ ho)]
    · rfl
  · rw [k_push_setObj, objs_push_setObj, dirties_push_setObj]
    refine ⟨rfl, ?_, fun h => upd_other (h.elim id fun hn hba => nomatch (hba ▸ hn).symm.trans ho)⟩
    split
    · rw [‹b = a›, upd_same, ho]; rfl
    · exact upd_other ‹_›

theorem syncBalances_at (db : DB) (N b : Nat) :
    (syncBalances db (List.range N)).k = db.k ∧
    (syncBalances db (List.range N)).objs b = (if b < N then (db.objs b).map (syncObj db.k b) else db.objs b) ∧
    (db.objs b = none → (syncBalances db (List.range N)).dirties b = db.dirties b) := by
  obtain ⟨d', hd', h⟩ := foldl_range_obs syncOne (fun d => (d.objs b, d.dirties b, d.k)) b (fun d a ha => by
    obtain ⟨h1, h2, h3⟩ := syncOne_at d a b
    rw [if_neg (Ne.symm ha)] at h2
    rw [h1, h2, h3 (.inl (Ne.symm ha))]) db
  replace h := h N
  rw [Prod.mk.injEq, Prod.mk.injEq] at hd'
  obtain ⟨hbo, hbd, hbk⟩ := hd'
  unfold syncBalances
  by_cases hlt : b < N
  · -- the steps before `b` have left `b` and the keeper alone, so the step at `b` sees what `db` holds there
    obtain ⟨s1, s2, s3⟩ := syncOne_at d' b b
    rw [if_pos hlt, Prod.mk.injEq, Prod.mk.injEq, s1, s2, if_pos rfl, hbo, hbk] at h
    rw [hbo, hbd] at s3
    rw [if_pos hlt, h.1, h.2.2]
    exact ⟨rfl, rfl, fun hn => h.2.1.trans (s3 (.inr hn))⟩
  · rw [if_neg hlt, Prod.mk.injEq, Prod.mk.injEq] at h
    rw [if_neg hlt, h.1, h.2.1, h.2.2]
    exact ⟨rfl, rfl, fun _ => rfl⟩

end Haqq.SDB
