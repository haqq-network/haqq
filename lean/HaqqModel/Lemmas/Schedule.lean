/-
  Period lists without an account around them: ReadSchedule's loop, the time grid, the induction shared by the two merge
  loops (`merge_induct`) and DisjunctPeriods' loop; `Lemmas/Conjunct.lean` has the other loop.
-/
import HaqqModel.Model.Schedule

namespace Haqq.Sched

@[simp] theorem Amt.zero_apply (d : Nat) : Amt.zero d = 0 := rfl
@[simp] theorem Amt.add_apply (a b : Amt) (d : Nat) : Amt.add a b d = a d + b d := rfl
@[simp] theorem Amt.min_apply (a b : Amt) (d : Nat) : Amt.min a b d = Min.min (a d) (b d) := rfl
@[simp] theorem Amt.sub_apply (a b : Amt) (d : Nat) : Amt.sub a b d = a d - b d := rfl

theorem Amt.zero_add (b : Amt) : Amt.add Amt.zero b = b := funext fun _ => Nat.zero_add _

theorem Amt.allLE_iff (M : Nat) (a b : Amt) : Amt.allLE M a b = true ↔ ∀ d, d < M → a d ≤ b d := by
  simp only [Amt.allLE, not_anyTo_iff, decide_eq_false_iff_not, Nat.not_lt]

theorem Amt.isZero_iff (M : Nat) (a : Amt) : Amt.isZero M a = true ↔ ∀ d, d < M → a d = 0 := by
  simp only [Amt.isZero, not_anyTo_iff, decide_eq_false_iff_not, Nat.not_lt, Nat.le_zero_eq]

/-- well-formed period list: no negative length (ValidateBasic demands ≥ 1; the defaults and the
    merge functions produce 0) -/
def WF (ps : List Period) : Prop := ∀ p ∈ ps, 0 ≤ p.length

theorem WF_nil : WF [] := fun _ h => by cases h
theorem WF_tail {p : Period} {ps : List Period} (h : WF (p :: ps)) : WF ps :=
  fun q hq => h q (List.mem_cons_of_mem _ hq)
theorem WF_head {p : Period} {ps : List Period} (h : WF (p :: ps)) : 0 ≤ p.length :=
  h p List.mem_cons_self
theorem WF_cons {p : Period} {ps : List Period} (h0 : 0 ≤ p.length) (h : WF ps) : WF (p :: ps) := by
  intro q hq
  cases hq with
  | head => exact h0
  | tail _ hq' => exact h q hq'

theorem WF_take (ps : List Period) (n : Nat) (h : WF ps) : WF (ps.take n) :=
  fun p hp => h p (List.mem_of_mem_take hp)

theorem totalLength_nonneg (ps : List Period) (h : WF ps) : 0 ≤ totalLength ps := by
  induction ps with
  | nil => exact Int.le_refl 0
  | cons p rest ih => exact Int.add_nonneg (WF_head h) (ih (WF_tail h))

theorem totalLength_take_le (ps : List Period) (n : Nat) (h : WF ps) :
    totalLength (ps.take n) ≤ totalLength ps := by
  induction ps generalizing n with
  | nil => rw [List.take_nil]; exact Int.le_refl _
  | cons p rest ih =>
    cases n with
    | zero => exact totalLength_nonneg _ h
    | succ k => exact Int.add_le_add_left (ih k (WF_tail h)) _

/-- the next event of a side is not before the last emitted time -/
def Next (tX e : Int) (xs : List Period) : Prop :=
  match xs with
  | [] => True
  | x :: _ => e ≤ tX + x.length

theorem Next.mono {t e e' : Int} {xs : List Period} (h : Next t e xs) (he : e' ≤ e) : Next t e' xs := by
  cases xs with
  | nil => trivial
  | cons x _ => exact Int.le_trans he h

theorem Next.of_add_one {t e : Int} {xs : List Period} (h : Next t (e + 1) xs) : Next t e xs :=
  h.mono (Int.le_add_one (Int.le_refl e))

theorem Next_self {t : Int} {xs : List Period} (h : WF xs) : Next t t xs := by
  cases xs with
  | nil => trivial
  | cons x _ => exact Int.le_add_of_nonneg_right (WF_head h)

theorem Next_min_left {sA : Int} (sB : Int) {xs : List Period} (h : WF xs) : Next sA (min sA sB) xs :=
  (Next_self h).mono (Int.min_le_left ..)

theorem Next_min_right (sA : Int) {sB : Int} {xs : List Period} (h : WF xs) : Next sB (min sA sB) xs :=
  (Next_self h).mono (Int.min_le_right ..)

theorem readLoop_cons (e : Int) (p : Period) (ps : List Period) (t : Int) (d : Nat) :
    readLoop e (p :: ps) t d = if t < e + p.length then 0 else p.amount d + readLoop (e + p.length) ps t d :=
  apply_ite (fun a : Amt => a d) ..

theorem readLoop_zero_of_next {e s : Int} {ps : List Period} {t : Int} (h : Next e s ps) (ht : t < s) (d : Nat) :
    readLoop e ps t d = 0 := by
  cases ps with
  | nil => rfl
  | cons p rest => rw [readLoop_cons, if_pos (Int.lt_of_lt_of_le ht h)]

theorem readLoop_zero_of_lt (e : Int) (ps : List Period) (t : Int) (d : Nat) (h : WF ps) (ht : t < e) :
    readLoop e ps t d = 0 :=
  readLoop_zero_of_next (Next_self h) ht d

theorem readLoop_mono (ps : List Period) (e t1 t2 : Int) (d : Nat) (h : t1 ≤ t2) :
    readLoop e ps t1 d ≤ readLoop e ps t2 d := by
  -- the cases of the loop (`pastLoop`'s are the same): no period; the first has not ended by `t`, exit; it has
  fun_induction readLoop e ps t1 with
  | case1 => exact Nat.zero_le _
  | case2 => exact Nat.zero_le _
  | case3 e p rest h1 ih =>
    rw [readLoop_cons, if_neg fun h2 => h1 (Int.lt_of_le_of_lt h h2)]
    exact Nat.add_le_add_left ih _

theorem readLoop_le_total (ps : List Period) (e t : Int) (d : Nat) : readLoop e ps t d ≤ totalAmount ps d := by
  fun_induction readLoop e ps t with
  | case1 => exact Nat.le_refl _
  | case2 => exact Nat.zero_le _
  | case3 e p rest _ ih => exact Nat.add_le_add_left ih _

theorem readLoop_all (ps : List Period) (e t : Int) (d : Nat) (hw : WF ps) (h : e + totalLength ps ≤ t) :
    readLoop e ps t d = totalAmount ps d := by
  induction ps generalizing e with
  | nil => rfl
  | cons p rest ih =>
    rw [totalLength, ← Int.add_assoc] at h
    -- the head has ended, since the rest ends no earlier
    rw [readLoop_cons, ih _ (WF_tail hw) h,
      if_neg (Int.not_lt.2 (Int.le_trans (Int.le_add_of_nonneg_right (totalLength_nonneg rest (WF_tail hw))) h))]
    rfl

/-- the total is what is read once every list has ended: a relation between the readings of well-formed lists
    that holds at all times holds between their totals -/
theorem total_of_read {R : Nat → Nat → Nat → Prop} {ep eq er : Int} {ps qs rs : List Period} {d : Nat}
    (hp : WF ps) (hq : WF qs) (hr : WF rs)
    (h : ∀ t, R (readLoop ep ps t d) (readLoop eq qs t d) (readLoop er rs t d)) :
    R (totalAmount ps d) (totalAmount qs d) (totalAmount rs d) := by
  have := h (max (ep + totalLength ps) (max (eq + totalLength qs) (er + totalLength rs)))
  rwa [readLoop_all ps _ _ d hp (Int.le_max_left ..),
    readLoop_all qs _ _ d hq (Int.le_trans (Int.le_max_left ..) (Int.le_max_right ..)),
    readLoop_all rs _ _ d hr (Int.le_trans (Int.le_max_right ..) (Int.le_max_right ..))] at this

/-- the reference step function: Σ of the amounts of all periods whose absolute end time is ≤ t
    (no early exit) -/
def stepLoop (e : Int) (ps : List Period) (t : Int) : Amt :=
  match ps with
  | [] => Amt.zero
  | p :: rest => Amt.add (if e + p.length ≤ t then p.amount else Amt.zero) (stepLoop (e + p.length) rest t)

theorem stepLoop_zero_of_lt (ps : List Period) (e t : Int) (d : Nat) (hw : WF ps) (ht : t < e) :
    stepLoop e ps t d = 0 := by
  fun_induction stepLoop e ps t with
  | case1 => rfl
  | case2 e p rest ih =>
    have h := Int.lt_of_lt_of_le ht (Int.le_add_of_nonneg_right (WF_head hw))
    rw [if_neg (Int.not_le.2 h), Amt.add_apply, ih (WF_tail hw) h]
    rfl

/-- where the loop of ReadSchedule exits early, the later periods have not ended either (no length is negative) -/
theorem readLoop_eq_step (ps : List Period) (e t : Int) (d : Nat) (hw : WF ps) :
    readLoop e ps t d = stepLoop e ps t d := by
  fun_induction readLoop e ps t with
  | case1 => rfl
  | case2 e p rest h =>
    rw [stepLoop, Amt.add_apply, if_neg (Int.not_le.2 h), stepLoop_zero_of_lt rest _ _ _ (WF_tail hw) h]; rfl
  | case3 e p rest h ih =>
    rw [stepLoop, if_pos (Int.not_lt.1 h), Amt.add_apply, Amt.add_apply, ih (WF_tail hw)]

/-- a schedule as the account stores it: periods, start, an end time not before the last event, and a total equal to
    the sum of the period amounts (the last two are what `Validate()` checks, the sum on the denominations in use) -/
structure Valid (start endT : Int) (ps : List Period) (total : Amt) : Prop where
  wf : WF ps
  endOk : start + totalLength ps ≤ endT
  sum : ∀ d, total d = totalAmount ps d

theorem read_zero (start endT : Int) (ps : List Period) (total : Amt) (t : Int) (h : t ≤ start) :
    readSchedule start endT ps total t = Amt.zero :=
  if_pos h

theorem read_total (start endT : Int) (ps : List Period) (total : Amt) (t : Int)
    (hs : start < t) (h : endT ≤ t) : readSchedule start endT ps total t = total := by
  rw [readSchedule, if_neg (Int.not_le.2 hs), if_pos h]

/-- strictly after the start ReadSchedule is its loop: the shortcut from the end time on agrees with it.  Stated on the
    fields of `Valid`, the sum at `d` only: the lockup after a clawback has its sum on the denominations in use only
    (`Vest.clawback_lockup_valid`), is not `Valid`, and is read through this form. -/
theorem read_eq_loop {start endT : Int} {ps : List Period} {total : Amt} {t : Int} {d : Nat}
    (hwf : WF ps) (hend : start + totalLength ps ≤ endT) (hsum : total d = totalAmount ps d) (hs : start < t) :
    readSchedule start endT ps total t d = readLoop start ps t d := by
  fun_cases readSchedule start endT ps total t with
  | case1 h => exact absurd hs (Int.not_lt.2 h)  -- not started
  | case2 _ h => rw [hsum, readLoop_all ps start t d hwf (Int.le_trans hend h)]  -- from the end time on: the total
  | case3 => rfl  -- in between: the loop

theorem Valid.read_eq_loop {start endT : Int} {ps : List Period} {total : Amt} {t : Int}
    (hv : Valid start endT ps total) (hs : start < t) (d : Nat) :
    readSchedule start endT ps total t d = readLoop start ps t d :=
  Sched.read_eq_loop hv.wf hv.endOk (hv.sum d) hs

theorem read_le_total (start endT : Int) (ps : List Period) (total : Amt) (t : Int) (d : Nat)
    (hv : Valid start endT ps total) : readSchedule start endT ps total t d ≤ total d := by
  by_cases hs : t ≤ start
  · rw [read_zero _ _ _ _ _ hs]; exact Nat.zero_le _
  · rw [hv.read_eq_loop (Int.not_le.1 hs), hv.sum d]; exact readLoop_le_total ps start t d

theorem pastLoop_cons (e : Int) (p : Period) (ps : List Period) (t : Int) :
    pastLoop e (p :: ps) t = if t < e + p.length then 0 else pastLoop (e + p.length) ps t + 1 := by
  rw [pastLoop, Nat.add_comm]

theorem totalAmount_take_pastLoop (ps : List Period) (e t : Int) (d : Nat) :
    totalAmount (ps.take (pastLoop e ps t)) d = readLoop e ps t d := by
  fun_induction pastLoop e ps t with
  | case1 => rfl
  | case2 e p rest h => rw [readLoop_cons, if_pos h]; rfl
  | case3 e p rest h ih =>
    rw [readLoop_cons, if_neg h, Nat.add_comm 1, List.take_succ_cons, totalAmount, Amt.add_apply, ih]

theorem pastLoop_le_length (ps : List Period) (e t : Int) : pastLoop e ps t ≤ ps.length := by
  fun_induction pastLoop e ps t with
  | case1 => exact Nat.le_refl 0
  | case2 => exact Nat.zero_le _
  | case3 e p rest _ ih => rw [Nat.add_comm]; exact Nat.succ_le_succ ih

/-! Everything a schedule says about time is a function of its grid `ps.map (·.length)`; `pastLoop_bounds` and
    `WF_alignFirst` are phrased on the grid so that they pass between schedules with equal grids by rewriting. -/

theorem totalLength_eq_sum (ps : List Period) : totalLength ps = (ps.map (·.length)).sum := by
  induction ps with
  | nil => rfl
  | cons p rest ih => rw [totalLength, ih, List.map_cons, List.sum_cons]

theorem WF_iff_grid (ps : List Period) : WF ps ↔ ∀ l ∈ ps.map (·.length), 0 ≤ l := by
  simp only [WF, List.mem_map, forall_exists_index, and_imp, forall_apply_eq_imp_iff₂]

theorem totalLength_congr {ps qs : List Period} (h : ps.map (·.length) = qs.map (·.length)) :
    totalLength ps = totalLength qs := by
  rw [totalLength_eq_sum, h, ← totalLength_eq_sum]

theorem WF_congr {ps qs : List Period} (h : ps.map (·.length) = qs.map (·.length)) (hw : WF ps) : WF qs := by
  rw [WF_iff_grid] at hw ⊢; rwa [← h]

/-- the periods counted as passed end by `t`, and the next one (if any) has not -/
theorem pastLoop_bounds (ps : List Period) (e t : Int) :
    (e ≤ t → e + totalLength (ps.take (pastLoop e ps t)) ≤ t) ∧
    ∀ l ∈ ((ps.drop (pastLoop e ps t)).map (·.length)).head?,
      t < e + totalLength (ps.take (pastLoop e ps t)) + l := by
  fun_induction pastLoop e ps t with
  | case1 e => exact ⟨fun h => (Int.add_zero e).symm ▸ h, nofun⟩
  | case2 e x rest hlt =>
    refine ⟨fun h => (Int.add_zero e).symm ▸ h, fun l hl => ?_⟩
    cases hl
    exact (Int.add_zero e).symm ▸ hlt
  | case3 e x rest hge ih =>
    rw [Nat.add_comm 1, List.take_succ_cons, List.drop_succ_cons, totalLength, ← Int.add_assoc]
    exact ⟨fun _ => ih.1 (Int.not_lt.1 hge), ih.2⟩

theorem readPastPeriodCount_running {start endT : Int} (ps : List Period) {t : Int} (h1 : start < t)
    (h2 : t < endT) : readPastPeriodCount start endT ps t = pastLoop start ps t := by
  rw [readPastPeriodCount, if_neg (Int.not_le.2 h1), if_neg (Int.not_le.2 h2)]

theorem pastCount_sum (start endT : Int) (ps : List Period) (total : Amt) (t : Int) (d : Nat)
    (hv : Valid start endT ps total) :
    totalAmount (ps.take (readPastPeriodCount start endT ps t)) d = readSchedule start endT ps total t d := by
  fun_cases readPastPeriodCount start endT ps t with
  | case1 hs => rw [read_zero _ _ _ _ _ hs]; rfl
  | case2 hs he => rw [read_total _ _ _ _ _ (Int.not_le.1 hs) he, List.take_length, hv.sum d]
  | case3 hs _ => rw [hv.read_eq_loop (Int.not_le.1 hs)]; exact totalAmount_take_pastLoop ps start t d

theorem pastCount_ended {start endT : Int} {ps : List Period} {total : Amt} {t : Int}
    (hv : Valid start endT ps total) (hs : start < t) :
    start + totalLength (ps.take (readPastPeriodCount start endT ps t)) ≤ t := by
  fun_cases readPastPeriodCount start endT ps t with
  | case1 h => exact absurd hs (Int.not_lt.2 h)
  | case2 _ he => rw [List.take_length]; exact Int.le_trans hv.endOk he
  | case3 => exact (pastLoop_bounds ps start t).1 (Int.le_of_lt hs)

theorem totalAmount_append (xs ys : List Period) (d : Nat) :
    totalAmount (xs ++ ys) d = totalAmount xs d + totalAmount ys d := by
  induction xs with
  | nil => exact (Nat.zero_add _).symm
  | cons x rest ih => simp only [List.cons_append, totalAmount, Amt.add_apply, ih, Nat.add_assoc]

theorem WF_append {xs ys : List Period} (hx : WF xs) (hy : WF ys) : WF (xs ++ ys) :=
  fun p hp => (List.mem_append.1 hp).elim (hx p) (hy p)

theorem WF_drop (ps : List Period) (n : Nat) (h : WF ps) : WF (ps.drop n) :=
  fun p hp => h p (List.mem_of_mem_drop hp)

/-- the tail is read from where the head ends: before that instant it yields nothing, after it the head yields
    its total -/
theorem readLoop_append {xs ys : List Period} (hx : WF xs) (hy : WF ys) (e t : Int) (d : Nat) :
    readLoop e (xs ++ ys) t d = readLoop e xs t d + readLoop (e + totalLength xs) ys t d := by
  induction xs generalizing e with
  | nil => rw [totalLength, Int.add_zero]; exact (Nat.zero_add _).symm
  | cons x rest ih =>
    rw [List.cons_append, readLoop_cons, readLoop_cons, totalLength, ← Int.add_assoc]
    split
    · rw [readLoop_zero_of_lt _ ys t d hy
        (Int.lt_of_lt_of_le ‹_› (Int.le_add_of_nonneg_right (totalLength_nonneg rest (WF_tail hx))))]
    · rw [ih (WF_tail hx), Nat.add_assoc]

/-- moving the start by as much as the first period is lengthened leaves every event where it was -/
theorem readLoop_alignFirst {e e' δ : Int} (h : e' + δ = e) (ps : List Period) (t : Int) (d : Nat) :
    readLoop e' (alignFirst ps δ) t d = readLoop e ps t d := by
  fun_cases alignFirst ps δ with
  | case1 => rfl
  | case2 p rest => rw [readLoop_cons, readLoop_cons, ← h, Int.add_comm p.length, Int.add_assoc]

theorem totalAmount_alignFirst (ps : List Period) (δ : Int) : totalAmount (alignFirst ps δ) = totalAmount ps := by
  cases ps <;> rfl

theorem WF_alignFirst {ps : List Period} {δ : Int} (h : WF ps)
    (h0 : ∀ l ∈ (ps.map (·.length)).head?, 0 ≤ l + δ) : WF (alignFirst ps δ) := by
  cases ps with
  | nil => exact h
  | cons p rest => exact WF_cons (h0 p.length rfl) (WF_tail h)

/-- reading a list whose first period was emitted at time `n` by a loop that had last emitted at `e` -/
theorem readLoop_emit (e n : Int) (x : Amt) (rest : List Period) (t : Int) (d : Nat) :
    readLoop e (⟨n - e, x⟩ :: rest) t d = if t < n then 0 else x d + readLoop n rest t d := by
  rw [readLoop_cons, Int.add_comm e, Int.sub_add_cancel]

theorem totalLength_emit (e n : Int) (x : Amt) (rest : List Period) :
    e + totalLength (⟨n - e, x⟩ :: rest) = n + totalLength rest := by
  rw [totalLength, ← Int.add_assoc, Int.add_comm e, Int.sub_add_cancel]

theorem ite_isEmpty_totalLength (e : Int) (xs : List Period) :
    (if xs.isEmpty then e else e + totalLength xs) = e + totalLength xs := by
  cases xs with
  | nil => exact (Int.add_zero e).symm
  | cons => rfl

theorem ite_isEmpty_cons (e t : Int) (x : Period) (xs : List Period) :
    (if (x :: xs).isEmpty then e else t + totalLength (x :: xs)) = t + x.length + totalLength xs :=
  (Int.add_assoc ..).symm

/-- What a side of a merge does at the instant `n` of a step: it moves (its first period ends at `n` and is handed over)
    or it stays (it is exhausted, or its next event is strictly later: it has none up to and including `n`, times being
    integers) and hands over nothing.  `Adv n t xs t' xs' x`: the side `(t, xs)` becomes `(t', xs')` and hands over `x`. -/
inductive Adv (n : Int) : Int → List Period → Int → List Period → Amt → Prop
  | move {t : Int} {p : Period} {ps : List Period} : t + p.length = n → Adv n t (p :: ps) n ps p.amount
  | stay {t : Int} {ps : List Period} : Next t (n + 1) ps → Adv n t ps t ps Amt.zero

theorem Adv.read {n t t' : Int} {xs xs' : List Period} {x : Amt} (h : Adv n t xs t' xs' x) (τ : Int) (d : Nat) :
    readLoop t xs τ d = if τ < n then 0 else x d + readLoop t' xs' τ d := by
  cases h with
  | move hn => rw [readLoop_cons, hn]
  | stay hs =>
    split
    · exact readLoop_zero_of_next hs.of_add_one ‹_› d
    · exact (Nat.zero_add _).symm

theorem Adv.total {n t t' : Int} {xs xs' : List Period} {x : Amt} (h : Adv n t xs t' xs' x) (d : Nat) :
    totalAmount xs d = x d + totalAmount xs' d := by
  cases h with
  | move => rfl
  | stay => exact (Nat.zero_add _).symm

theorem Adv.wf {n t t' : Int} {xs xs' : List Period} {x : Amt} (h : Adv n t xs t' xs' x) (hw : WF xs) : WF xs' := by
  cases h with
  | move => exact WF_tail hw
  | stay => exact hw

theorem Adv.next {n t t' : Int} {xs xs' : List Period} {x : Amt} (h : Adv n t xs t' xs' x) (hw : WF xs) :
    Next t' n xs' := by
  cases h with
  | move => exact Next_self (WF_tail hw)
  | stay hs => exact hs.of_add_one

/-- the end of a side after a step at `n` is what it was, but not before `n` (a side without periods counts as ending
    at the last emitted time, which moves from `e` to `n`) -/
theorem Adv.end_eq {n t t' e : Int} {xs xs' : List Period} {x : Amt} (h : Adv n t xs t' xs' x) (hw : WF xs) (he : e ≤ n) :
    (if xs'.isEmpty then n else t' + totalLength xs') = max n (if xs.isEmpty then e else t + totalLength xs) := by
  cases h with
  | move hn =>
    rw [ite_isEmpty_totalLength, ite_isEmpty_cons, hn]
    exact (Int.max_eq_right (Int.le_add_of_nonneg_right (totalLength_nonneg _ (WF_tail hw)))).symm
  | stay hs =>
    cases xs with
    | nil => exact (Int.max_eq_left he).symm
    | cons p ps =>
      rw [ite_isEmpty_cons, ite_isEmpty_cons]
      exact (Int.max_eq_right (Int.le_trans hs.of_add_one
        (Int.le_add_of_nonneg_right (totalLength_nonneg _ (WF_tail hw))))).symm

/-- `n` is the first event of the side `(t, xs)` -/
def First (n t : Int) (xs : List Period) : Prop := ∃ p ps, xs = p :: ps ∧ t + p.length = n

theorem First.ge {n t e : Int} {xs : List Period} (h : First n t xs) (hn : Next t e xs) : e ≤ n := by
  obtain ⟨p, ps, rfl, rfl⟩ := h; exact hn

theorem First.le_end {n t : Int} {xs : List Period} (h : First n t xs) (hw : WF xs) (e : Int) :
    n ≤ if xs.isEmpty then e else t + totalLength xs := by
  obtain ⟨p, ps, rfl, rfl⟩ := h
  rw [ite_isEmpty_cons]; exact Int.le_add_of_nonneg_right (totalLength_nonneg _ (WF_tail hw))

/-- one `consume*` step of ConjunctPeriods followed by the rest of the loop: `k`, the recursive call, is handed the
    new last emitted time and the new running result -/
def consume (M : Nat) (n e : Int) (totA totB res : Amt) (k : Int → Amt → List Period) : List Period :=
  consOpt (conjEmit M n e totA totB res).1 (k (conjEmit M n e totA totB res).2.1 (conjEmit M n e totA totB res).2.2)

/-- Induction over the two loops that walk two period lists in time order, step by step.  A step happens at the instant
    `n` of the earliest next event; each side moves or stays (`Adv`); DisjunctPeriods' loop emits at `n` the sum of what
    the sides hand over, ConjunctPeriods' loop adds it to the running totals and `consume`s.  So a theorem about either
    loop has one `step` case, the same for both sides. -/
theorem merge_induct {motive : Int → List Period → Int → List Period → Prop}
    (nil : ∀ tA tB, motive tA [] tB [])
    (step : ∀ {tA as tB bs} (n : Int) {tA' as' tB' bs' x y}, Adv n tA as tA' as' x → Adv n tB bs tB' bs' y →
      First n tA as ∨ First n tB bs →
      (∀ e, disj tA tB e as bs = ⟨n - e, Amt.add x y⟩ :: disj tA' tB' n as' bs') →
      (∀ M e totA totB res, conj M tA tB e totA totB res as bs =
        consume M n e (Amt.add totA x) (Amt.add totB y) res fun e' res' =>
          conj M tA' tB' e' (Amt.add totA x) (Amt.add totB y) res' as' bs') →
      motive tA' as' tB' bs' → motive tA as tB bs)
    (tA : Int) (as : List Period) (tB : Int) (bs : List Period) : motive tA as tB bs := by
  -- the case analysis is that of `disj` (and of `conj`), whose emitted time plays no part in it: both lists empty, `bs`
  -- empty, `as` empty, the next event of `as` first (`h`), that of `bs` first, both at the same instant
  induction tA, tB, (0 : Int), as, bs using disj.induct with
  | case1 tA tB => exact nil tA tB
  | case2 tA tB _ a as ih =>
    exact step _ (.move rfl) (.stay trivial) (.inl ⟨a, as, rfl, rfl⟩) (fun e => by rw [disj]; rfl)
      (fun M e totA totB res => by rw [conj]; rfl) ih
  | case3 tA tB _ b bs ih =>
    exact step _ (.stay trivial) (.move rfl) (.inr ⟨b, bs, rfl, rfl⟩) (fun e => by rw [disj, Amt.zero_add])
      (fun M e totA totB res => by rw [conj]; rfl) ih
  | case4 tA tB _ a as b bs h ih =>
    exact step _ (.move rfl) (.stay (Int.add_one_le_of_lt h)) (.inl ⟨a, as, rfl, rfl⟩)
      (fun e => by rw [disj, if_pos h]; rfl) (fun M e totA totB res => by rw [conj, if_pos h]; rfl) ih
  | case5 tA tB _ a as b bs h1 h ih =>
    exact step _ (.stay (Int.add_one_le_of_lt h)) (.move rfl) (.inr ⟨b, bs, rfl, rfl⟩)
      (fun e => by rw [disj, if_neg h1, if_pos h, Amt.zero_add])
      (fun M e totA totB res => by rw [conj, if_neg h1, if_pos h]; rfl) ih
  | case6 tA tB _ a as b bs h1 h2 ih =>
    have h := Int.le_antisymm (Int.not_lt.1 h2) (Int.not_lt.1 h1)
    exact step _ (.move rfl) (.move h.symm) (.inl ⟨a, as, rfl, rfl⟩)
      (fun e => by rw [disj, if_neg h1, if_neg h2, ← h])
      (fun M e totA totB res => by rw [conj, if_neg h1, if_neg h2, ← h]; rfl) (h ▸ ih)

theorem disj_WF (tA tB e : Int) (as bs : List Period)
    (hA : WF as) (hB : WF bs) (nA : Next tA e as) (nB : Next tB e bs) : WF (disj tA tB e as bs) := by
  induction tA, as, tB, bs using merge_induct generalizing e with
  | nil => rw [disj]; exact WF_nil
  | step n sA sB hn hd _ ih =>
    rw [hd]
    exact WF_cons (Int.sub_nonneg_of_le (hn.elim (·.ge nA) (·.ge nB)))
      (ih _ (sA.wf hA) (sB.wf hB) (sA.next hA) (sB.next hB))

theorem disj_read (tA tB e : Int) (as bs : List Period) (t : Int) (d : Nat) :
    readLoop e (disj tA tB e as bs) t d = readLoop tA as t d + readLoop tB bs t d := by
  induction tA, as, tB, bs using merge_induct generalizing e with
  | nil => rw [disj]; rfl
  | step n sA sB _ hd _ ih =>
    rw [hd, readLoop_emit, ih, sA.read, sB.read]
    split
    · rfl
    · exact Nat.add_add_add_comm ..

theorem disj_total (tA tB e : Int) (as bs : List Period) (d : Nat) :
    totalAmount (disj tA tB e as bs) d = totalAmount as d + totalAmount bs d := by
  induction tA, as, tB, bs using merge_induct generalizing e with
  | nil => rw [disj]; rfl
  | step n sA sB _ hd _ ih =>
    rw [hd, totalAmount, Amt.add_apply, ih, sA.total, sB.total]
    exact Nat.add_add_add_comm ..

theorem disj_end_sides (tA tB e : Int) (as bs : List Period)
    (hA : WF as) (hB : WF bs) (nA : Next tA e as) (nB : Next tB e bs) :
    e + totalLength (disj tA tB e as bs) =
      max (if as.isEmpty then e else tA + totalLength as) (if bs.isEmpty then e else tB + totalLength bs) := by
  induction tA, as, tB, bs using merge_induct generalizing e with
  | nil => rw [disj]; exact (Int.add_zero e).trans (Int.max_self e).symm
  | @step tA as tB bs n _ _ _ _ _ _ sA sB hn hd _ ih =>
    have he : e ≤ n := hn.elim (·.ge nA) (·.ge nB)
    -- the later of the two ends, that of a side with an event at `n`, is not before `n`
    have key : n ≤ max (if as.isEmpty then e else tA + totalLength as) (if bs.isEmpty then e else tB + totalLength bs) :=
      hn.elim (fun h => Int.le_trans (h.le_end hA e) (Int.le_max_left ..))
        fun h => Int.le_trans (h.le_end hB e) (Int.le_max_right ..)
    -- the step raises both ends to `n` at least: `max (max n A) (max n B)`, which is `max n (max A B)`
    rw [hd, totalLength_emit, ih _ (sA.wf hA) (sB.wf hB) (sA.next hA) (sB.next hB), sA.end_eq hA he, sB.end_eq hB he,
      ← Int.max_assoc, Int.max_comm (max n _), ← Int.max_assoc, Int.max_self, Int.max_assoc]
    exact Int.max_eq_right key

theorem disj_end (tA tB e : Int) (as bs : List Period)
    (hA : WF as) (hB : WF bs) (nA : Next tA e as) (nB : Next tB e bs) :
    e + totalLength (disj tA tB e as bs) =
      max e (max (if as.isEmpty then e else tA + totalLength as) (if bs.isEmpty then e else tB + totalLength bs)) := by
  rw [disj_end_sides tA tB e as bs hA hB nA nB]
  -- the outer `max e` is absorbed: no side ends before `e`
  refine (Int.max_eq_right (Int.le_trans ?_ (Int.le_max_left ..))).symm
  cases as with
  | nil => exact Int.le_refl e
  | cons a as =>
    exact Int.le_trans nA (Int.add_le_add_left (Int.le_add_of_nonneg_right (totalLength_nonneg as (WF_tail hA))) tA)

end Haqq.Sched
