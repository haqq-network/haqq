/-
  Lemmas for liquid vesting (C11).  At the period level everything goes through `SplitAt` and its three consequences
  (`SplitAt.grid`, `SplitAt.read`, `SplitAt.total`).
-/
import HaqqModel.Model.LiquidVesting
import HaqqModel.Lemmas.Schedule

namespace Haqq.Liquid
open Haqq.Sched Haqq.Vest

theorem totalLength_append (xs ys : List Period) : totalLength (xs ++ ys) = totalLength xs + totalLength ys := by
  simp only [totalLength_eq_sum, List.map_append, List.sum_append]

theorem shiftLoop_eq (ps : List Period) (e now : Int) :
    shiftLoop e now ps =
      if pastLoop e ps now = ps.length then 0 else now - (e + totalLength (ps.take (pastLoop e ps now))) := by
  fun_induction shiftLoop e now ps with
  | case1 => rfl
  | case2 e p rest h =>
    rw [pastLoop_cons, if_pos h, List.length_cons, if_neg (Nat.zero_ne_add_one _), List.take_zero, totalLength, Int.add_zero]
  | case3 e p rest h ih =>
    rw [ih, pastLoop_cons, if_neg h]
    simp only [List.take_succ_cons, List.length_cons, Nat.add_right_cancel_iff, totalLength, Int.add_assoc]

theorem pastLoop_congr : ∀ (ps qs : List Period) (e t : Int), ps.map (·.length) = qs.map (·.length) →
    pastLoop e ps t = pastLoop e qs t := by
  intro ps qs e t h
  induction ps generalizing qs e with
  | nil => rw [List.map_eq_nil_iff.1 h.symm]
  | cons p rest ih =>
    obtain ⟨q, qs', rfl, hq, hqs⟩ := List.map_eq_cons_iff.1 h.symm
    simp only [pastLoop, hq, ih qs' _ hqs.symm]

theorem shiftLoop_congr (ps qs : List Period) (e t : Int) (h : ps.map (·.length) = qs.map (·.length)) :
    shiftLoop e t ps = shiftLoop e t qs := by
  have hl := congrArg List.length h
  rw [List.length_map, List.length_map] at hl
  rw [shiftLoop_eq, shiftLoop_eq, pastLoop_congr ps qs e t h, hl,
    totalLength_congr (ps := ps.take _) (qs := qs.take _) (by rw [List.map_take, List.map_take, h])]

theorem replaceTail_eq_take (ps repl : List Period) :
    replaceTail ps repl = ps.take (ps.length - repl.length) ++ repl := by
  fun_cases replaceTail ps repl with
  | case1 h => rw [Nat.sub_eq_zero_of_le h]; rfl
  | case2 => rfl

theorem replaceTail_drop {ps qs : List Period} {n : Nat} (hn : n ≤ ps.length)
    (hg : qs.map (·.length) = (ps.drop n).map (·.length)) :
    replaceTail ps qs = ps.take n ++ qs ∧ (replaceTail ps qs).map (·.length) = ps.map (·.length) := by
  have hl := congrArg List.length hg
  rw [List.length_map, List.length_map, List.length_drop] at hl
  have h : replaceTail ps qs = ps.take n ++ qs := by rw [replaceTail_eq_take, hl, Nat.sub_sub_self hn]
  exact ⟨h, by rw [h, List.map_append, hg, ← List.map_append, List.take_append_drop]⟩

theorem readLoop_of_upcoming_nil {start endT : Int} {ps : List Period} {t : Int} (hwf : WF ps)
    (hend : start + totalLength ps ≤ endT) (h : extractUpcoming start endT ps t = []) (d : Nat) :
    readLoop start ps t d = totalAmount ps d := by
  unfold extractUpcoming at h
  revert h
  fun_cases readPastPeriodCount start endT ps t with
  | case1 => intro h; rw [List.drop_zero] at h; subst h; rfl
  | case2 _ he => exact fun _ => readLoop_all ps start t d hwf (Int.le_trans hend he)
  | case3 =>
    intro h
    rw [← totalAmount_take_pastLoop, List.take_of_length_le (List.drop_eq_nil_iff.1 h)]

theorem sumList_eq_sum (l : List Nat) : sumList l = l.sum := by
  induction l with
  | nil => rfl
  | cons x xs ih => rw [sumList, ih, List.sum_cons]

theorem sumList_append (a b : List Nat) : sumList (a ++ b) = sumList a + sumList b := by
  simp only [sumList_eq_sum, List.sum_append]

theorem sumList_reverse (a : List Nat) : sumList a.reverse = sumList a := by
  simp only [sumList_eq_sum, List.sum_reverse]

theorem sumList_map_add {α : Type} (g h : α → Nat) (l : List α) :
    sumList (l.map fun x => g x + h x) = sumList (l.map g) + sumList (l.map h) := by
  induction l with
  | nil => rfl
  | cons x xs ih => simp only [List.map_cons, sumList, ih, Nat.add_add_add_comm]

theorem totalAmount_eq_sumList (ps : List Period) (d : Nat) :
    totalAmount ps d = sumList (ps.map fun p => p.amount d) := by
  induction ps with
  | nil => rfl
  | cons p rest ih => simp only [totalAmount, Amt.add_apply, List.map_cons, sumList, ih]

theorem share_le (a : Nat) {s T : Nat} (hs : s ≤ T) : a * s / T ≤ a :=
  Nat.div_le_of_le_mul (by rw [Nat.mul_comm T]; exact Nat.mul_le_mul_left a hs)

theorem mul_sum_shares_le (as : List Nat) (s T : Nat) : T * sumList (shares as s T) ≤ sumList as * s := by
  induction as with
  | nil => simp [shares, sumList]
  | cons a rest ih =>
    simp only [shares, List.map_cons, sumList, Nat.mul_add, Nat.add_mul] at ih ⊢
    exact Nat.add_le_add (Nat.mul_div_le (a * s) T) ih

theorem sum_shares_le (as : List Nat) (s : Nat) (hT : 0 < sumList as) :
    sumList (shares as s (sumList as)) ≤ s :=
  Nat.le_of_mul_le_mul_left (Nat.mul_comm s _ ▸ mul_sum_shares_le as s (sumList as)) hT

theorem mkPairs_map (f : Nat → Nat) (as : List Nat) :
    mkPairs as (as.map f) = as.map fun a => (a - f a, f a) := by
  induction as with
  | nil => rfl
  | cons a rest ih => simp only [List.map_cons, mkPairs, ih]

theorem mkPairs_shares (as : List Nat) {s T : Nat} (hs : s ≤ T) :
    (mkPairs as (shares as s T)).map (fun x => x.1 + x.2) = as ∧
    (mkPairs as (shares as s T)).map (·.2) = shares as s T := by
  unfold shares
  rw [mkPairs_map, List.map_map, List.map_map]
  exact ⟨List.map_id'' (fun a => Nat.sub_add_cancel (share_le a hs)) as, rfl⟩

/-- the residue pass moves amounts from the left to the right component of a pair, never between pairs,
    and places all of `r` unless the left components run out -/
theorem pushResidue_spec (l : List (Nat × Nat)) (r : Nat) :
    (pushResidue l r).1.map (fun x => x.1 + x.2) = l.map (fun x => x.1 + x.2) ∧
    (pushResidue l r).2 = r - sumList (l.map (·.1)) ∧
    sumList ((pushResidue l r).1.map (·.2)) + (pushResidue l r).2 = sumList (l.map (·.2)) + r := by
  fun_induction pushResidue l r with
  | case1 => exact ⟨rfl, rfl, rfl⟩
  | case2 dc df rest r h p ih =>
    -- the pair gives all it has left, the rest of the residue travels on
    obtain ⟨i1, i2, i3⟩ := ih
    have back : dc + (r - dc) = r := Nat.add_sub_cancel' (Nat.le_of_lt h)
    simp only [List.map_cons, sumList]
    refine ⟨?_, i2.trans (Nat.sub_sub ..), ?_⟩
    · rw [i1, Nat.zero_add, Nat.add_comm df]
    · rw [Nat.add_assoc, i3, Nat.add_assoc df, Nat.add_left_comm dc, back, Nat.add_assoc]
  | case3 dc df rest r h =>
    -- the pair takes the whole residue
    have h := Nat.le_of_not_lt h
    have pair : dc - r + (df + r) = dc + df := by rw [← Nat.add_assoc, Nat.add_right_comm, Nat.sub_add_cancel h]
    have left : ∀ k, r - (dc + k) = 0 := fun k => Nat.sub_eq_zero_of_le (Nat.le_trans h (Nat.le_add_right dc k))
    simp only [List.map_cons, sumList, Nat.add_zero]
    exact ⟨by rw [pair], (left _).symm, Nat.add_right_comm ..⟩

theorem pushResidue_length (l : List (Nat × Nat)) : ∀ r, (pushResidue l r).1.length = l.length := by
  intro r
  simpa only [List.length_map] using congrArg List.length (pushResidue_spec l r).1

/-- the residue loop always places the whole residue (so the moved total is exact): what is left on the
    periods after the proportional pass is `Σ as − Σ shares`, and the residue `s − Σ shares` is no more -/
theorem subtract_residue_absorbed (as : List Nat) (s : Nat) (hs : s ≤ sumList as) (h0 : 0 < sumList as) :
    (pushResidue (mkPairs as (shares as s (sumList as))).reverse (s - sumList (shares as s (sumList as)))).2 = 0 := by
  obtain ⟨p1, p2⟩ := mkPairs_shares as hs
  have := sumList_map_add (·.1) (·.2) (mkPairs as (shares as s (sumList as)))
  rw [p1, p2] at this
  rw [(pushResidue_spec _ _).2.1, List.map_reverse, sumList_reverse]
  exact Nat.sub_eq_zero_of_le (Nat.sub_le_iff_le_add.2 (this ▸ hs))

theorem subtractAmounts_eq_none (as : List Nat) (s : Nat) :
    subtractAmounts as s = none ↔ (sumList as < s ∨ sumList as = 0) := by
  simp only [subtractAmounts, Bool.or_eq_true, decide_eq_true_eq]
  split
  · exact iff_of_true rfl ‹_›
  · exact iff_of_false nofun ‹_›

theorem subtractAmounts_eq_some {as : List Nat} {s : Nat} {pairs : List (Nat × Nat)}
    (h : subtractAmounts as s = some pairs) :
    pairs.map (fun x => x.1 + x.2) = as ∧ sumList (pairs.map (·.2)) = s := by
  revert h
  fun_cases subtractAmounts as s with
  | case1 => nofun
  | case2 hc =>
    rintro ⟨⟩
    rw [Bool.or_eq_true, decide_eq_true_eq, decide_eq_true_eq, not_or, Nat.not_lt] at hc
    have hT := Nat.pos_of_ne_zero hc.2
    obtain ⟨p1, p2⟩ := mkPairs_shares as hc.1
    obtain ⟨q1, -, q3⟩ := pushResidue_spec (mkPairs as (shares as s (sumList as))).reverse
      (s - sumList (shares as s (sumList as)))
    rw [subtract_residue_absorbed as s hc.1 hT, List.map_reverse, sumList_reverse, p2] at q3
    rw [Nat.add_zero, Nat.add_sub_cancel' (sum_shares_le as s hT)] at q3
    exact ⟨by rw [List.map_reverse, q1, List.map_reverse, List.reverse_reverse, p1],
      by rw [List.map_reverse, sumList_reverse, q3]⟩

/-- `ps` splits into `qs` (stays) and `rs` (moves) at denomination d: same lengths period by period,
    amounts add up -/
def SplitAt (d : Nat) : List Period → List Period → List Period → Prop
  | [], [], [] => True
  | p :: ps, q :: qs, r :: rs =>
      q.length = p.length ∧ r.length = p.length ∧ p.amount d = q.amount d + r.amount d ∧ SplitAt d ps qs rs
  | _, _, _ => False

theorem mkDec_mkDiff_spec (denom : Nat) (ps : List Period) (pairs : List (Nat × Nat))
    (h : pairs.map (fun x => x.1 + x.2) = ps.map (·.amount denom)) :
    (∀ d, SplitAt d ps (mkDec denom ps pairs) (mkDiff denom ps pairs)) ∧
    (mkDiff denom ps pairs).map (·.amount denom) = pairs.map (·.2) ∧
    ∀ p ∈ mkDiff denom ps pairs, ∀ d, d ≠ denom → p.amount d = 0 := by
  induction ps generalizing pairs with
  | nil =>
    obtain rfl := List.map_eq_nil_iff.1 h
    exact ⟨fun _ => trivial, rfl, nofun⟩
  | cons p rest ih =>
    obtain ⟨x, xs, rfl, hx, hxs⟩ := List.map_eq_cons_iff.1 h
    obtain ⟨i1, i2, i3⟩ := ih xs hxs
    refine ⟨fun d => ⟨rfl, rfl, ?_, i1 d⟩, ?_, ?_⟩
    · simp only [setDenom, single]
      split
      · subst d; exact hx.symm
      · rfl
    · simp only [mkDiff, List.map_cons, i2, single, if_true]
    · exact List.forall_mem_cons.2 ⟨fun d hd => if_neg hd, i3⟩

theorem SplitAt.grid {d : Nat} {ps qs rs : List Period} (h : SplitAt d ps qs rs) :
    qs.map (·.length) = ps.map (·.length) ∧ rs.map (·.length) = ps.map (·.length) := by
  fun_induction SplitAt d ps qs rs with
  | case1 => exact ⟨rfl, rfl⟩
  | case2 p ps q qs r rs ih => simp only [List.map_cons, h.1, h.2.1, ih h.2.2.2, and_self]
  | case3 => exact h.elim

theorem SplitAt.read {d : Nat} {ps qs rs : List Period} (h : SplitAt d ps qs rs) (e t : Int) :
    readLoop e ps t d = readLoop e qs t d + readLoop e rs t d := by
  fun_induction SplitAt d ps qs rs generalizing e with
  | case1 => rfl
  | case2 p ps q qs r rs ih =>
    rw [readLoop_cons, readLoop_cons, readLoop_cons, h.1, h.2.1]
    split
    · rfl
    · rw [ih h.2.2.2, h.2.2.1]; exact Nat.add_add_add_comm ..
  | case3 => exact h.elim

theorem SplitAt.total {d : Nat} {ps qs rs : List Period} (h : SplitAt d ps qs rs) :
    totalAmount ps d = totalAmount qs d + totalAmount rs d := by
  fun_induction SplitAt d ps qs rs with
  | case1 => rfl
  | case2 p ps q qs r rs ih => simp only [totalAmount, Amt.add_apply, ih h.2.2.2, h.2.2.1, Nat.add_add_add_comm]
  | case3 => exact h.elim

end Haqq.Liquid
