/-
  Functions over `Nat`-indexed state: `upd`, `sumTo`, `anyTo` with their lemmas; the guard-chain lemmas `ite_eq_iff` /
  `ite_error_eq_ok`; `foldl_range_obs`; `range_map_get`; small facts about `Nat` and lists that core lacks (`max_le_max`, `sub_sub_le_add`,
  `eraseDups_of_nodup`).
-/
namespace Haqq

/-- pointwise function update (core-only replacement of `Function.update`).  The keys — addresses, denominations — are
    plain `Nat`: an `abbrev` for them would hide the type from `omega`. -/
def upd {β : Type} (f : Nat → β) (k : Nat) (v : β) : Nat → β :=
  fun x => if x = k then v else f x

@[simp] theorem upd_same {β : Type} (f : Nat → β) (k : Nat) (v : β) : upd f k v k = v :=
  if_pos rfl

@[simp] theorem upd_other {β : Type} {f : Nat → β} {k x : Nat} {v : β} (h : x ≠ k) :
    upd f k v x = f x :=
  if_neg h

theorem upd_apply {β : Type} (f : Nat → β) (k x : Nat) (v : β) : upd f k v x = if x = k then v else f x := rfl

@[simp] theorem upd_upd_same {β : Type} (f : Nat → β) (a : Nat) (x y : β) : upd (upd f a x) a y = upd f a y := by
  funext z; simp only [upd]; split <;> rfl

theorem upd_comm {β : Type} (f : Nat → β) {a b : Nat} (x y : β) (h : a ≠ b) :
    upd (upd f a x) b y = upd (upd f b y) a x := by
  funext z
  by_cases hb : z = b
  · subst hb; rw [upd_same, upd_other (Ne.symm h), upd_same]
  · rw [upd_other hb, upd_apply, upd_apply, upd_other hb]

@[simp] theorem upd_self {β : Type} (f : Nat → β) (a : Nat) : upd f a (f a) = f := by
  funext z; simp only [upd]; split
  · next h => rw [h]
  · rfl

theorem upd_eq_self {β : Type} {f : Nat → β} {a : Nat} {y : β} (h : f a = y) : upd f a y = f := by
  rw [← h, upd_self]

/-- Σ_{i<n} f i -/
def sumTo (f : Nat → Nat) : Nat → Nat
  | 0 => 0
  | n + 1 => sumTo f n + f n

theorem sumTo_congr (f g : Nat → Nat) (n : Nat) (h : ∀ i, i < n → f i = g i) :
    sumTo f n = sumTo g n := by
  induction n with
  | zero => rfl
  | succ k ih =>
    simp only [sumTo]
    rw [ih (fun i hi => h i (Nat.lt_succ_of_lt hi)), h k (Nat.lt_succ_self k)]

theorem sumTo_upd_ge (f : Nat → Nat) (k v n : Nat) (h : n ≤ k) :
    sumTo (upd f k v) n = sumTo f n :=
  sumTo_congr _ _ n fun _ hi => upd_other (Nat.ne_of_lt (Nat.lt_of_lt_of_le hi h))

theorem sumTo_upd (f : Nat → Nat) (k v n : Nat) (h : k < n) :
    sumTo (upd f k v) n + f k = sumTo f n + v := by
  induction n with
  | zero => exact absurd h (Nat.not_lt_zero k)
  | succ m ih =>
    simp only [sumTo]
    rcases Nat.lt_succ_iff_lt_or_eq.1 h with hk | rfl
    · rw [upd_other (Nat.ne_of_gt hk), Nat.add_right_comm, ih hk, Nat.add_right_comm]
    · rw [sumTo_upd_ge f k v k (Nat.le_refl k), upd_same, Nat.add_right_comm]

theorem sumTo_upd_add (f : Nat → Nat) (a x n : Nat) (h : a < n) :
    sumTo (upd f a (f a + x)) n = sumTo f n + x := by
  apply Nat.add_right_cancel (m := f a)
  rw [sumTo_upd f a (f a + x) n h, Nat.add_comm (f a), Nat.add_assoc]

theorem sumTo_upd_sub (f : Nat → Nat) (a x n : Nat) (h : a < n) (hx : x ≤ f a) :
    sumTo (upd f a (f a - x)) n + x = sumTo f n := by
  apply Nat.add_right_cancel (m := f a)
  rw [Nat.add_right_comm, sumTo_upd f a (f a - x) n h, Nat.add_assoc, Nat.sub_add_cancel hx]

/-- `x` taken from summand `a` and given to summand `b` (which may be `a` itself): the term by which the ledger
    models write a transfer -/
theorem sumTo_move (f : Nat → Nat) (a b x n : Nat) (ha : a < n) (hb : b < n) (hx : x ≤ f a) :
    sumTo (upd (upd f a (f a - x)) b (upd f a (f a - x) b + x)) n = sumTo f n := by
  rw [sumTo_upd_add _ b x n hb]
  exact sumTo_upd_sub f a x n ha hx

theorem sumTo_zero (f : Nat → Nat) (n : Nat) (h : ∀ i, i < n → f i = 0) : sumTo f n = 0 := by
  induction n with
  | zero => rfl
  | succ k ih => simp only [sumTo]; rw [ih (fun i hi => h i (Nat.lt_succ_of_lt hi)), h k (Nat.lt_succ_self k)]

theorem sumTo_add (f g : Nat → Nat) (n : Nat) :
    sumTo (fun i => f i + g i) n = sumTo f n + sumTo g n := by
  induction n with
  | zero => rfl
  | succ k ih => simp only [sumTo]; rw [ih, Nat.add_add_add_comm]

theorem sumTo_ite (a x n : Nat) (h : a < n) : sumTo (fun i => if i = a then x else 0) n = x := by
  -- the indicator is `upd (fun _ => 0) a x`, by definition
  have := sumTo_upd (fun _ => 0) a x n h
  rwa [sumTo_zero _ n fun _ _ => rfl, Nat.zero_add] at this

theorem le_sumTo (f : Nat → Nat) (n k : Nat) (h : k < n) : f k ≤ sumTo f n :=
  Nat.le.intro ((Nat.add_comm _ _).trans (sumTo_upd f k 0 n h))

/-- ∃ i<n, p i (decidable, computable) -/
def anyTo (p : Nat → Bool) : Nat → Bool
  | 0 => false
  | n + 1 => anyTo p n || p n

theorem anyTo_iff (p : Nat → Bool) (n : Nat) : anyTo p n = true ↔ ∃ i, i < n ∧ p i = true := by
  induction n with
  | zero => simp [anyTo]
  | succ k ih =>
    simp only [anyTo, Bool.or_eq_true, ih, Nat.lt_succ_iff_lt_or_eq, or_and_right, exists_or, exists_eq_left]

theorem not_anyTo_iff (p : Nat → Bool) (n : Nat) : (!anyTo p n) = true ↔ ∀ i, i < n → p i = false := by
  simp only [Bool.not_eq_true', ← Bool.not_eq_true, anyTo_iff, not_exists, not_and]

theorem anyTo_decide (p : Nat → Prop) [DecidablePred p] (n : Nat) :
    anyTo (fun i => decide (p i)) n = true ↔ ∃ i, i < n ∧ p i := by
  simp only [anyTo_iff, decide_eq_true_eq]

theorem ite_eq_iff {α : Sort _} {c : Prop} [Decidable c] {x y z : α} :
    (if c then x else y) = z ↔ c ∧ x = z ∨ ¬c ∧ y = z := by
  split <;> simp only [*, true_and, false_and, not_true_eq_false, not_false_eq_true, or_false, false_or]

/-- the operations of the models are chains of guards that fail with an error: success means every guard passed -/
theorem ite_error_eq_ok {ε α : Type} {c : Prop} [Decidable c] {e : ε} {x : Except ε α} {a : α} :
    (if c then .error e else x) = .ok a ↔ ¬c ∧ x = .ok a :=
  ite_eq_iff.trans (or_iff_right fun h => nomatch h.2)

/-- After the steps `0, …, n-1` of a fold, an observation that only the step at `b` can change shows that step's
    result, on a state `s'` that still looks like the initial one, or the initial state if `b` was not reached. -/
theorem foldl_range_obs {σ β : Type} (f : σ → Nat → σ) (obs : σ → β) (b : Nat)
    (other : ∀ s a, a ≠ b → obs (f s a) = obs s) (s : σ) :
    ∃ s', obs s' = obs s ∧
      ∀ n, obs ((List.range n).foldl f s) = if b < n then obs (f s' b) else obs s := by
  have h : ∀ n, obs ((List.range n).foldl f s) =
      if b < n then obs (f ((List.range b).foldl f s) b) else obs s := by
    intro n
    induction n with
    | zero => rfl
    | succ m ih =>
      rw [List.range_succ, List.foldl_append, List.foldl_cons, List.foldl_nil]
      by_cases hb : m = b
      · subst hb; rw [if_pos (Nat.lt_succ_self _)]
      · rw [other _ _ hb, ih]
        have : b < m + 1 ↔ b < m :=
          ⟨fun h => Nat.lt_of_le_of_ne (Nat.le_of_lt_succ h) (Ne.symm hb), Nat.lt_succ_of_lt⟩
        simp only [this]
  exact ⟨_, (h b).trans (if_neg (Nat.lt_irrefl b)), h⟩

/-- a function tabulated on `[0, n)`: what the table holds at `d` is `f d` (the drivers answer lookups from such tables) -/
theorem range_map_get {β : Type} (n : Nat) (f : Nat → β) (d : Nat) (v : β)
    (h : ((List.range n).map f).toArray[d]? = some v) : v = f d := by
  rw [List.getElem?_toArray, List.getElem?_map, Option.map_eq_some_iff] at h
  obtain ⟨i, hi, rfl⟩ := h
  obtain ⟨_, rfl⟩ := List.getElem?_eq_some_iff.mp hi
  rw [List.getElem_range]

theorem max_le_max {a b c d : Nat} (h1 : a ≤ c) (h2 : b ≤ d) : max a b ≤ max c d :=
  Nat.max_le.2 ⟨Nat.le_trans h1 (Nat.le_max_left ..), Nat.le_trans h2 (Nat.le_max_right ..)⟩

theorem sub_sub_le_add (x D k : Nat) : x - (D - k) ≤ x - D + k :=
  Nat.sub_le_iff_le_add.2 <| calc
    x ≤ x - D + D := Nat.sub_le_iff_le_add.1 (Nat.le_refl _)
    _ ≤ x - D + (k + (D - k)) := Nat.add_le_add_left (Nat.sub_le_iff_le_add'.1 (Nat.le_refl _)) _
    _ = x - D + k + (D - k) := (Nat.add_assoc ..).symm

theorem eraseDups_of_nodup (l : List Nat) (h : l.Nodup) : l.eraseDups = l := by
  induction l with
  | nil => rfl
  | cons a as ih =>
    simp only [List.nodup_cons] at h
    have hf : as.filter (fun b => !b == a) = as := by
      rw [List.filter_eq_self]
      intro b hb
      have : b ≠ a := fun e => h.1 (e ▸ hb)
      simp [this]
    rw [List.eraseDups_cons, hf, ih h.2]

end Haqq
