/-
  cosmossdk.io/math LegacyDec (18 decimals) as raw integers: Mul / Quo / RoundInt / TruncateInt with the
  library's rounding (chopPrecisionAndRound = banker's rounding, sign-symmetric).  Core Lean only.
-/
namespace Haqq.Dec

def precN : Nat := 10 ^ 18
def prec : Int := 10 ^ 18

/-- chopPrecisionAndRound on a non-negative value -/
def chopRoundNat (n : Nat) : Nat :=
  let q := n / precN
  let r := n % precN
  if r = 0 then q
  else if r < 5 * 10 ^ 17 then q
  else if r > 5 * 10 ^ 17 then q + 1
  else if q % 2 = 0 then q else q + 1

/-- chopPrecisionAndRound -/
def chopRound (x : Int) : Int :=
  if x < 0 then -(chopRoundNat (-x).toNat : Int) else (chopRoundNat x.toNat : Int)

/-- LegacyDec.Mul on raw values -/
def mul (a b : Int) : Int := chopRound (a * b)
/-- LegacyDec.Quo on raw values (big.Int.Quo truncates toward zero).  10^36: `QuoMut` multiplies the raw value by the
    precision squared, divides, and chops one precision off with `chopPrecisionAndRound`. -/
def quo (a b : Int) : Int := chopRound (Int.tdiv (a * (10 ^ 36 : Int)) b)
/-- LegacyDec.RoundInt -/
def roundInt (a : Int) : Int := chopRound a
/-- LegacyDec.TruncateInt (big.Int.Quo: toward zero) -/
def truncateInt (a : Int) : Int := Int.tdiv a prec
/-- NewDec(n) -/
def ofInt (n : Int) : Int := n * prec

theorem chopRoundNat_cases (x : Nat) :
    chopRoundNat x = x / precN ∨ (x % precN ≠ 0 ∧ chopRoundNat x = x / precN + 1) := by
  fun_cases chopRoundNat x
  · exact .inl rfl
  · exact .inl rfl
  · exact .inr ⟨‹_›, rfl⟩
  · exact .inl rfl
  · exact .inr ⟨‹_›, rfl⟩

theorem chopRoundNat_of_mul (n : Nat) : chopRoundNat (n * precN) = n := by
  rcases chopRoundNat_cases (n * precN) with e | ⟨hr, _⟩
  · rw [e, Nat.mul_div_cancel n (by decide)]
  · exact absurd (Nat.mul_mod_left n precN) hr

theorem chopRoundNat_le (x n : Nat) (h : x ≤ n * precN) : chopRoundNat x ≤ n := by
  rcases chopRoundNat_cases x with e | ⟨hr, e⟩ <;> rw [e]
  · exact Nat.div_le_of_le_mul (Nat.mul_comm n precN ▸ h)
  · -- rounded up: there is a remainder, so `x` is not the multiple `n * precN` itself
    have hne : x ≠ n * precN := fun e => hr (e ▸ Nat.mul_mod_left n precN)
    exact (Nat.div_lt_iff_lt_mul (by decide)).2 (Nat.lt_of_le_of_ne h hne)

theorem chopRoundNat_ge_floor (x : Nat) : x / precN ≤ chopRoundNat x := by
  have := chopRoundNat_cases x; omega

theorem prec_eq : prec = (precN : Int) := by decide

theorem chopRound_natCast (m : Nat) : chopRound m = chopRoundNat m := by
  unfold chopRound; rw [if_neg (Int.not_lt.2 (Int.natCast_nonneg m)), Int.toNat_natCast]

theorem chopRound_neg_natCast (m : Nat) : chopRound (-(m : Int)) = -(chopRoundNat m : Int) := by
  cases m with
  | zero => rfl
  | succ k =>
    unfold chopRound
    rw [if_pos (Int.neg_neg_of_pos (Int.natCast_pos.2 (Nat.succ_pos k))), Int.neg_neg, Int.toNat_natCast]

theorem chopRound_nonneg (x : Int) (h : 0 ≤ x) : 0 ≤ chopRound x := by
  obtain ⟨m, rfl⟩ := Int.eq_ofNat_of_zero_le h
  rw [chopRound_natCast]; exact Int.natCast_nonneg _

theorem chopRound_ofInt (n : Int) : chopRound (n * prec) = n := by
  rw [prec_eq]
  obtain ⟨k, rfl | rfl⟩ := Int.eq_nat_or_neg n
  · rw [← Int.natCast_mul, chopRound_natCast, chopRoundNat_of_mul]
  · rw [Int.neg_mul, ← Int.natCast_mul, chopRound_neg_natCast, chopRoundNat_of_mul]

theorem chopRound_le_of_le_ofInt (x n : Int) (hx : 0 ≤ x) (h : x ≤ n * prec) : chopRound x ≤ n := by
  obtain ⟨m, rfl⟩ := Int.eq_ofNat_of_zero_le hx
  obtain ⟨k, rfl⟩ := Int.eq_ofNat_of_zero_le (Int.nonneg_of_mul_nonneg_left (Int.le_trans hx h) (by decide))
  rw [prec_eq, ← Int.natCast_mul, Int.ofNat_le] at h
  rw [chopRound_natCast, Int.ofNat_le]
  exact chopRoundNat_le m k h

end Haqq.Dec
