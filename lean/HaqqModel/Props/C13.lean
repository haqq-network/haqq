/-
  C13 — Coinomics mints the formula amount and never exceeds the cap.

  English statement (properties.jsonl):
    In each block with coinomics enabled the chain mints bonded x rewardCoefficient% x elapsed / year
    native coins - evaluated in 18-decimal fixed point and rounded to the nearest unit, with elapsed
    measured between consecutive block timestamps and the year length following leap years - and all
    of it goes to the fee collector for distribution.  Minting never lifts the total supply above the
    configured maximum: the block that would cross it mints only the remainder and switches minting
    off, and nothing is minted while minting is disabled or on the first block after activation.

  Formalisation: `State`/`Block` carry exactly what MintAndAllocate reads.  The fixed-point pipeline is
  the specification (`mint_formula`).  "First block after activation" includes re-activation:
  `reactivation_first_block_no_mint` holds for the code as it is now (regenerated fact
  `coinomicsResetsPrevTSWhenDisabled`); `reactivation_counterexample` is the repaired finding
  `C13:mint-on-first-block-after-reactivation:stale-prevTS`: before the repair 344006b the timestamp was kept while
  disabled, so the whole gap was minted.
-/
import HaqqModel.Model.Coinomics
import HaqqModel.Generated.Facts

namespace Haqq.Coinomics
open Haqq.Dec

/-- nothing is minted, and nothing but the (regenerated) timestamp reset happens, while disabled -/
theorem mint_disabled_noop (reset : Bool) (st : State) (b : Block) (h : st.enabled = false) :
    (endBlock reset st b).2 = 0 ∧ (endBlock reset st b).1.enabled = false ∧
    (endBlock reset st b).1.maxSupply = st.maxSupply ∧ (endBlock reset st b).1.rewardCoeff = st.rewardCoeff := by
  simp only [endBlock, h, Bool.not_false, if_true]
  cases reset <;> simp [h]

/-- first block after activation (no stored timestamp): nothing minted, timestamp recorded -/
theorem mint_first_block (reset : Bool) (st : State) (b : Block) (he : st.enabled = true) (h : st.prevTS = 0) :
    (endBlock reset st b).2 = 0 ∧ (endBlock reset st b).1.prevTS = b.timeMs ∧
    (endBlock reset st b).1.enabled = true := by
  simp [endBlock, he, mintAndAllocate, h]

theorem minted_cases (reset : Bool) (st : State) (b : Block) :
    (endBlock reset st b).2 = 0 ∨ (0 ≤ cappedMint st b ∧ (endBlock reset st b).2 = roundInt (cappedMint st b)) := by
  unfold endBlock
  split
  · exact .inl rfl
  · fun_cases mintAndAllocate st b
    · exact .inl rfl
    · exact .inl rfl
    · exact .inr ⟨Int.not_lt.1 ‹_›, rfl⟩

theorem endBlock_minting (reset : Bool) (st : State) (b : Block) (he : st.enabled = true) (hp : st.prevTS ≠ 0)
    (hn : 0 ≤ cappedMint st b) :
    endBlock reset st b = ({ st with enabled := !crossing st b, prevTS := b.timeMs }, roundInt (cappedMint st b)) := by
  simp only [endBlock, he, Bool.not_true, Bool.false_eq_true, if_false, mintAndAllocate, hp, Bool.true_and,
    if_neg (Int.not_lt.2 hn)]

theorem mint_nonneg (reset : Bool) (st : State) (b : Block) : 0 ≤ (endBlock reset st b).2 := by
  rcases minted_cases reset st b with h | ⟨hn, h⟩ <;> rw [h]
  · exact Int.le_refl 0
  · exact chopRound_nonneg _ hn

theorem capped_eq (st : State) (b : Block) (hc : crossing st b = true) :
    cappedMint st b = (st.maxSupply - b.supply) * prec := by
  simp only [cappedMint, hc, if_true, ofInt, Int.sub_mul]

theorem cappedMint_le (st : State) (b : Block) : cappedMint st b ≤ (st.maxSupply - b.supply) * prec := by
  rw [Int.sub_mul]
  unfold cappedMint crossing
  split
  · exact Int.le_refl _
  · next h =>
    have key : ofInt b.supply + blockMintDec st b ≤ ofInt st.maxSupply := Int.not_lt.1 fun hp => h (decide_eq_true hp)
    exact Int.le_sub_left_of_add_le key

/-- **the cap**: if the supply is within the maximum, it still is after the block's mint -/
theorem mint_cap (reset : Bool) (st : State) (b : Block) (h : b.supply ≤ st.maxSupply) :
    b.supply + (endBlock reset st b).2 ≤ st.maxSupply := by
  rcases minted_cases reset st b with h0 | ⟨hn, h1⟩
  · rw [h0, Int.add_zero]; exact h
  · rw [h1]
    have key : roundInt (cappedMint st b) ≤ st.maxSupply - b.supply :=
      chopRound_le_of_le_ofInt _ _ hn (cappedMint_le st b)
    exact Int.add_le_of_le_sub_left key

/-- the block that would cross the maximum mints exactly the remainder and switches minting off -/
theorem mint_cap_exact (reset : Bool) (st : State) (b : Block) (he : st.enabled = true) (hp : st.prevTS ≠ 0)
    (h : b.supply ≤ st.maxSupply) (hc : crossing st b = true) :
    (endBlock reset st b).2 = st.maxSupply - b.supply ∧ (endBlock reset st b).1.enabled = false := by
  have hn : 0 ≤ cappedMint st b := by
    rw [capped_eq st b hc]; exact Int.mul_nonneg (Int.sub_nonneg_of_le h) (by decide)
  rw [endBlock_minting reset st b he hp hn]
  simp only [hc, Bool.not_true, roundInt, capped_eq st b hc, chopRound_ofInt, and_self]

/-- inside the cap the minted amount is the fixed-point formula rounded half-even, minting stays on,
    and the block's timestamp becomes the reference for the next block -/
theorem mint_formula (reset : Bool) (st : State) (b : Block) (he : st.enabled = true) (hp : st.prevTS ≠ 0)
    (hc : crossing st b = false) (hn : 0 ≤ blockMintDec st b) :
    (endBlock reset st b).2 =
        roundInt (mul (mul (ofInt b.bonded) (quo st.rewardCoeff (ofInt 100)))
                      (quo (ofInt (b.timeMs - st.prevTS)) (ofInt (yearMs b.year)))) ∧
    (endBlock reset st b).1.enabled = true ∧ (endBlock reset st b).1.prevTS = b.timeMs := by
  have e : cappedMint st b = blockMintDec st b := if_neg (by rw [hc]; decide)
  rw [endBlock_minting reset st b he hp (e ▸ hn), e, hc]
  exact ⟨rfl, rfl, rfl⟩

theorem isLeap_iff (y : Int) : isLeap y = true ↔ (y % 4 = 0 ∧ y % 100 ≠ 0) ∨ y % 400 = 0 := by
  simp [isLeap]

/-- `yearMs` / `isLeap` restated propositionally, the constants as days × 86 400 000 ms -/
theorem leap_rule (y : Int) :
    yearMs y = if (y % 4 = 0 ∧ y % 100 ≠ 0) ∨ y % 400 = 0 then 366 * 86400000 else 365 * 86400000 := by
  unfold yearMs
  simp only [isLeap_iff]
  rfl

/-- everything minted ends at the fee collector; the module account keeps nothing; the supply grows by
    exactly the minted amount -/
theorem mint_all_to_collector (l : Ledger) (minted : Int) :
    (applyMint l minted).collector = l.collector + minted ∧ (applyMint l minted).moduleBal = l.moduleBal ∧
    (applyMint l minted).supply = l.supply + minted := by
  simp only [applyMint]; refine ⟨trivial, ?_, trivial⟩; omega

theorem rewardCoeff_kept (reset : Bool) (st : State) (b : Block) :
    (endBlock reset st b).1.rewardCoeff = st.rewardCoeff ∧ (endBlock reset st b).1.maxSupply = st.maxSupply := by
  unfold endBlock
  split
  · cases reset <;> exact ⟨rfl, rfl⟩
  · fun_cases mintAndAllocate st b <;> exact ⟨rfl, rfl⟩

/-- **consecutive block timestamps**: every block processed by MintAndAllocate becomes the reference of the next one —
    on the first block after activation, on an ordinary block, on the block that reaches the cap, and also when the
    formula amount is negative (a negative reward coefficient, which validation accepts, or a clock running backwards:
    nothing is minted, but the reference moves on; before the repair it stayed, and the first block after the
    coefficient became positive again minted for the whole gap) -/
theorem every_minting_block_is_the_reference (st : State) (b : Block) : (mintAndAllocate st b).1.prevTS = b.timeMs := by
  fun_cases mintAndAllocate st b <;> rfl

theorem prevTS_after_block (reset : Bool) (st : State) (b : Block) (he : st.enabled = true) :
    (endBlock reset st b).1.prevTS = b.timeMs := by
  simp only [endBlock, he, Bool.not_true, Bool.false_eq_true, if_false]
  exact every_minting_block_is_the_reference st b

/-- the block after an enabled block measures the elapsed time from that block's timestamp, whatever that block minted -/
theorem elapsed_from_previous_block (reset : Bool) (st : State) (b1 b2 : Block) (he : st.enabled = true) :
    blockMintDec (endBlock reset st b1).1 b2 =
      mul (mul (ofInt b2.bonded) (quo st.rewardCoeff (ofInt 100)))
          (quo (ofInt (b2.timeMs - b1.timeMs)) (ofInt (yearMs b2.year))) := by
  simp only [blockMintDec, prevTS_after_block reset st b1 he, (rewardCoeff_kept reset st b1).1]

/-- `elapsed_from_previous_block` with a condition on the earlier block (`hn`) which that lemma does not need: since the
    repair 10e98c0 every enabled block stores its timestamp -/
theorem trace_consecutive (reset : Bool) (st : State) (b1 b2 : Block) (he : st.enabled = true)
    (hn : st.prevTS = 0 ∨ 0 ≤ cappedMint st b1) :
    blockMintDec (endBlock reset st b1).1 b2 =
      mul (mul (ofInt b2.bonded) (quo st.rewardCoeff (ofInt 100)))
          (quo (ofInt (b2.timeMs - b1.timeMs)) (ofInt (yearMs b2.year))) :=
  elapsed_from_previous_block reset st b1 b2 he

/-- **re-activation**: with the timestamp cleared while disabled (what the code does now), a block
    processed while disabled followed by a switch-on makes the next block mint nothing -/
theorem reactivation_first_block_no_mint (st : State) (bOff bOn : Block) (h : st.enabled = false) :
    let stOff := (endBlock Facts.coinomicsResetsPrevTSWhenDisabled st bOff).1
    (endBlock Facts.coinomicsResetsPrevTSWhenDisabled { stOff with enabled := true } bOn).2 = 0 := by
  have hf : Facts.coinomicsResetsPrevTSWhenDisabled = true := rfl
  simp [hf, endBlock, h, mintAndAllocate]

/-- the repaired finding `C13:mint-on-first-block-after-reactivation:stale-prevTS` on the model (before the repair
    344006b: timestamp kept while disabled): enable, two blocks 5 s apart, disable for 10^6 s, re-enable — the first
    block after re-activation mints for the whole gap. -/
theorem reactivation_counterexample :
    let st : State := { enabled := true, rewardCoeff := 78 * 10 ^ 17, prevTS := 0, maxSupply := 10 ^ 29 }
    let blk (t : Int) : Block := { timeMs := t, year := 2024, bonded := 4 * 10 ^ 18, supply := 10 ^ 28 }
    let h : List (Block × Option Bool) :=
      [(blk 1700000000000, none), (blk 1700000005000, none), (blk 1700000010000, some false),
       (blk 1701000010000, some true), (blk 1701000015000, none)]
    (run false { st with } h).2 = [0, 49332119004, 0, 9866473132969035, 49332119004] ∧
    (run true { st with } h).2 = [0, 49332119004, 0, 0, 49332119004] := by
  constructor <;> decide +kernel

/-- non-vacuity of `mint_cap_exact` / `mint_formula`: concrete crossing and non-crossing blocks -/
example :
    let st : State := { enabled := true, rewardCoeff := 78 * 10 ^ 17, prevTS := 1700000000000, maxSupply := 10 ^ 28 + 5 }
    let b : Block := { timeMs := 1700000005000, year := 2024, bonded := 4 * 10 ^ 18, supply := 10 ^ 28 }
    crossing st b = true ∧ (endBlock true st b).2 = 5 ∧
    (endBlock true { st with maxSupply := 10 ^ 29 } b).2 = 49332119004 := by
  refine ⟨?_, ?_, ?_⟩ <;> decide +kernel

end Haqq.Coinomics
