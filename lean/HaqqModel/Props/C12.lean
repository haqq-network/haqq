/-
  C12 — UC DAO ledger: shares always add up to the pooled funds.

  English statement (properties.jsonl):
    For every denomination, the sum of all holders' DAO balances equals the recorded DAO total
    and equals the coins held by the DAO module account; the holder index lists exactly the
    accounts with a non-zero balance.  Funding credits the depositor with exactly what was
    deposited, and an ownership transfer (full, by ratio, or by amount) moves exactly the stated
    amount from the signer's own balance to the recipient and can never create, destroy or touch
    anyone else's share.

  Formalisation: addresses `< N`, denominations `< M` (N, M arbitrary).  `Inv` has two equalities (sum of
  shares = recorded total = module account), the index characterisation and two bounds (no share outside
  `[0, N) × [0, M)`); it is proved for every reachable state (`run_inv`), for the write order the code has *now*
  (`Facts.daoTransferCreditFirst`, regenerated from x/ucdao/keeper/keeper.go on every run).  `Dao.Op` has no ratio
  constructor: the message server truncates the amounts and calls `TransferOwnership`, and the driver's `xferratio`
  likewise calls `Dao.transfer` directly, so ratio transfers are covered by `transfer_inv`, not by `run_inv`.
-/
import HaqqModel.Lemmas.Dao
import HaqqModel.Generated.Facts

namespace Haqq.Dao

structure Inv (N M : Nat) (s : State) : Prop where
  sum_total  : ∀ d, sumTo (fun a => s.bal a d) N = s.total d
  total_mod  : ∀ d, s.total d = s.modBal d
  holders_ok : ∀ a, a < N → (s.holders a = true ↔ ∃ d, d < M ∧ 0 < s.bal a d)
  addr_bound : ∀ a d, N ≤ a → s.bal a d = 0
  den_bound  : ∀ a d, M ≤ d → s.bal a d = 0

theorem inv_init (N M : Nat) : Inv N M State.init where
  sum_total _ := sumTo_zero _ _ fun _ _ => rfl
  total_mod _ := rfl
  holders_ok _ _ := ⟨fun h => (nomatch h), fun ⟨_, _, h⟩ => absurd h (Nat.lt_irrefl 0)⟩
  addr_bound _ _ _ := rfl
  den_bound _ _ _ := rfl

/-- what a transfer must do to the share ledger -/
def moveSpec (bal : Nat → Nat → Nat) (owner newOwner : Nat) (amt : Nat → Nat) : Nat → Nat → Nat :=
  fun a d => (if a = owner then bal a d - amt d else bal a d) + (if a = newOwner then amt d else 0)

theorem moveSpec_other (bal : Nat → Nat → Nat) (owner newOwner : Nat) (amt : Nat → Nat) (a : Nat)
    (h1 : a ≠ owner) (h2 : a ≠ newOwner) : moveSpec bal owner newOwner amt a = bal a := by
  funext d; rw [moveSpec, if_neg h1, if_neg h2, Nat.add_zero]

theorem sum_moveSpec (bal : Nat → Nat → Nat) (owner newOwner N : Nat) (amt : Nat → Nat) (d : Nat)
    (ho : owner < N) (hn : newOwner < N) (hle : amt d ≤ bal owner d) :
    sumTo (fun a => moveSpec bal owner newOwner amt a d) N = sumTo (fun a => bal a d) N := by
  -- column `d` of `moveSpec`: the owner's entry lowered, plus an indicator at the recipient
  have e : ∀ a, moveSpec bal owner newOwner amt a d =
      upd (fun a => bal a d) owner (bal owner d - amt d) a + (if a = newOwner then amt d else 0) := fun a => by
    rw [moveSpec, upd_apply]
    split
    · next h => rw [h]
    · rfl
  rw [funext e, sumTo_add, sumTo_ite _ _ _ hn]
  exact sumTo_upd_sub (fun a => bal a d) owner (amt d) N ho hle

/-- What `Inv` needs of an operation: it rewrites the share rows of at most two accounts below `N`, leaves them zero
    beyond `M`, re-indexes both, and keeps the books (column sums, recorded total, module account) equal. -/
theorem Inv.frame {N M : Nat} {s s' : State} (hi : Inv N M s) {x y : Nat} (hx : x < N) (hy : y < N)
    (hrow : ∀ a, a ≠ x → a ≠ y → s'.bal a = s.bal a) (hden : ∀ a d, M ≤ d → s'.bal a d = 0)
    (hsum : ∀ d, sumTo (fun a => s'.bal a d) N = s'.total d) (htm : ∀ d, s'.total d = s'.modBal d)
    (hh : s'.holders = setHoldersIndex M s'.bal (setHoldersIndex M s'.bal s.holders y) x) : Inv N M s' := by
  refine ⟨hsum, htm, fun a ha => ?_, fun a d ha => ?_, hden⟩
  · rw [hh, setHoldersIndex_apply, setHoldersIndex_apply]
    split
    · next h1 => rw [h1]; exact anyTo_decide _ M
    · split
      · next h2 => rw [h2]; exact anyTo_decide _ M
      · next h1 h2 => rw [hrow a h1 h2]; exact hi.holders_ok a ha
  · rw [hrow a (Nat.ne_of_gt (Nat.lt_of_lt_of_le hx ha)) (Nat.ne_of_gt (Nat.lt_of_lt_of_le hy ha))]
    exact hi.addr_bound a d ha

/-- The two write orders of `transfer` agree with `moveSpec`, credit-first only for two different accounts: the two loops
    then write different rows and their order does not matter.  On one and the same row the leftovers, computed before the
    credit, would overwrite it (`transfer_self_counterexample`). -/
theorem transfer_writes (creditFirst : Bool) (bal : Nat → Nat → Nat) (owner newOwner : Nat) (amount left : Coins)
    (hne : creditFirst = true → owner ≠ newOwner)
    (hv : coinsValid amount = true) (hl : leftovers (bal owner) amount = .ok left) :
    (∀ d, amountOf amount d ≤ bal owner d) ∧
    (if creditFirst then setCoins (addCoins bal newOwner amount) owner left
      else addCoins (setCoins bal owner left) newOwner amount) = moveSpec bal owner newOwner (amountOf amount) := by
  obtain ⟨hle, hset⟩ := write_leftovers amount (bal owner) left hv hl
  refine ⟨hle, ?_⟩
  have hd : addCoins (setCoins bal owner left) newOwner amount = moveSpec bal owner newOwner (amountOf amount) := by
    funext a d
    rw [addCoins_apply, setCoins_eq, upd_apply, moveSpec]
    split
    · next h =>
      rw [h, hset]
      split
      · rfl
      · next h0 => rw [Nat.eq_zero_of_not_pos h0]; rfl
    · rfl
  cases creditFirst with
  | false => exact hd
  | true =>
    -- both orders as two row updates of `bal`; each loop finds its own row as it was before the other wrote
    rw [← hd, if_pos rfl, setCoins_eq, addCoins_eq, addCoins_eq, setCoins_eq, upd_other (hne rfl),
      upd_other (hne rfl).symm, upd_comm _ _ _ (hne rfl)]

/-- `s` after `amt` has moved from `owner` to `newOwner`: the share ledger by `moveSpec`, both accounts re-indexed -/
def State.moved (s : State) (M owner newOwner : Nat) (amt : Nat → Nat) : State :=
  let bal' := moveSpec s.bal owner newOwner amt
  { s with bal := bal', holders := setHoldersIndex M bal' (setHoldersIndex M bal' s.holders newOwner) owner }

theorem State.moved_bal (s : State) (M owner newOwner : Nat) (amt : Nat → Nat) :
    (s.moved M owner newOwner amt).bal = moveSpec s.bal owner newOwner amt := rfl

theorem State.moved_books (s : State) (M owner newOwner : Nat) (amt : Nat → Nat) :
    (s.moved M owner newOwner amt).total = s.total ∧ (s.moved M owner newOwner amt).modBal = s.modBal ∧
    (s.moved M owner newOwner amt).bank = s.bank := ⟨rfl, rfl, rfl⟩

theorem transfer_spec (M : Nat) (creditFirst : Bool) (s s' : State) (owner newOwner : Nat) (amount : Coins)
    (hne : creditFirst = true → owner ≠ newOwner)
    (h : transfer M creditFirst s owner newOwner amount = .ok s') :
    (∀ d, amountOf amount d ≤ s.bal owner d) ∧ s' = s.moved M owner newOwner (amountOf amount) := by
  revert h
  fun_cases transfer M creditFirst s owner newOwner amount with
  | case1 | case2 | case3 | case4 => nofun  -- refused: disabled, no share, more than the owner has, invalid coins
  | case5 _ _ left hleft hv =>  -- `left`: what `leftovers` returned; `hv`: the amount is valid
    rintro ⟨⟩
    rw [Bool.not_eq_true', Bool.not_eq_false] at hv
    obtain ⟨hle, hb⟩ := transfer_writes creditFirst s.bal owner newOwner amount left hne hv hleft
    exact ⟨hle, by rw [State.moved, ← hb]⟩

/-- the repaired finding `C12:transfer-inexact:owner==newOwner:owner` on the model: with the credit-first order
    (before the repair 4c307a0) a self-transfer destroys shares (fund 1000, transfer 400 to oneself → 600 left, total
    still 1000). -/
theorem transfer_self_counterexample :
    ∃ s', run 1 (fun _ => true) true State.init
        [.bankMint 0 0 1000, .fund 0 [(0, 1000)], .transferAmount 0 0 [(0, 400)]] = s' ∧
      s'.bal 0 0 = 600 ∧ s'.total 0 = 1000 ∧ s'.modBal 0 = 1000 := by
  refine ⟨_, rfl, ?_, ?_, ?_⟩ <;> decide

theorem moved_inv (N M : Nat) (s : State) (owner newOwner : Nat) (amt : Nat → Nat)
    (hi : Inv N M s) (ho : owner < N) (hn : newOwner < N) (hle : ∀ d, amt d ≤ s.bal owner d) :
    Inv N M (s.moved M owner newOwner amt) := by
  refine hi.frame ho hn (fun a => moveSpec_other s.bal owner newOwner amt a) (fun a d hd => ?_)
    (fun d => (sum_moveSpec s.bal owner newOwner N amt d ho hn (hle d)).trans (hi.sum_total d)) hi.total_mod rfl
  have : amt d = 0 := Nat.eq_zero_of_le_zero (hi.den_bound owner d hd ▸ hle d)
  rw [State.moved_bal, moveSpec, this, hi.den_bound a d hd, ite_self, ite_self]

/-- Funding: the depositor is credited with exactly the deposit, nobody else's share moves, the
    recorded total and the module account grow by the deposit, the depositor's bank balance
    drops by it. -/
theorem fund_exact (M : Nat) (allowed : Nat → Bool) (s s' : State) (sender : Nat) (amount : Coins)
    (h : fund M allowed s sender amount = .ok s') :
    (∀ a d, s'.bal a d = s.bal a d + (if a = sender then amountOf amount d else 0)) ∧
    (∀ d, s'.total d = s.total d + amountOf amount d) ∧
    (∀ d, s'.modBal d = s.modBal d + amountOf amount d) ∧
    (∀ a d, s'.bank a d + (if a = sender then amountOf amount d else 0) = s.bank a d) ∧
    s'.holders = setHoldersIndex M s'.bal s.holders sender ∧
    (∀ p ∈ amount, allowed p.1 = true) := by
  revert h
  fun_cases fund M allowed s sender amount with
  | case1 | case2 | case3 | case4 => nofun  -- refused: invalid coins, disabled, bank balance short, denomination
  | case5 _ _ bank' hbank hall =>  -- `bank'`: the bank after the debit; `hall`: every denomination is allowed
    rintro ⟨⟩
    rw [Bool.not_eq_true', Bool.not_eq_false] at hall
    exact ⟨addCoins_apply amount s.bal sender, totalCredit_apply amount s.total, modCredit_apply amount s.modBal,
      bankDebit_apply amount s.bank bank' sender hbank, rfl, List.all_eq_true.1 hall⟩

theorem fund_inv (N M : Nat) (allowed : Nat → Bool) (s s' : State) (sender : Nat) (amount : Coins)
    (hi : Inv N M s) (hs : sender < N) (hden : ∀ p ∈ amount, p.1 < M)
    (h : fund M allowed s sender amount = .ok s') : Inv N M s' := by
  obtain ⟨hb, ht, hm, _, hh, _⟩ := fund_exact M allowed s s' sender amount h
  refine hi.frame hs hs (fun a h1 _ => funext fun d => by rw [hb, if_neg h1, Nat.add_zero]) (fun a d hd => ?_)
    (fun d => ?_) (fun d => by rw [ht, hm, hi.total_mod d]) (hh.trans (upd_upd_same _ _ _ _).symm)
  · have : amountOf amount d = 0 :=
      amountOf_eq_zero amount d fun p hp => Nat.ne_of_lt (Nat.lt_of_lt_of_le (hden p hp) hd)
    rw [hb, hi.den_bound a d hd, this, ite_self]
  · rw [ht, funext fun a => hb a d, sumTo_add, sumTo_ite _ _ _ hs, hi.sum_total]

abbrev codeOrder : Bool := Facts.daoTransferCreditFirst

/-- Ownership transfer, any of the three message kinds, for the order the code has now: moves exactly
    the stated amount from the owner's own share to the recipient, touches nobody else, leaves the
    total, the module account and the bank untouched — **including owner = recipient**. -/
theorem transfer_exact (M : Nat) (s s' : State) (owner newOwner : Nat) (amount : Coins)
    (h : transfer M codeOrder s owner newOwner amount = .ok s') :
    s'.bal = moveSpec s.bal owner newOwner (amountOf amount) ∧
    (∀ d, amountOf amount d ≤ s.bal owner d) ∧
    s'.total = s.total ∧ s'.modBal = s.modBal ∧ s'.bank = s.bank := by
  -- `codeOrder` is the regenerated fact, now `false`: the proviso is vacuous; this `nomatch` breaks when it turns `true`
  obtain ⟨hle, rfl⟩ := transfer_spec M codeOrder s s' owner newOwner amount (fun h => nomatch h) h
  exact ⟨s.moved_bal .., hle, s.moved_books ..⟩

theorem transfer_inv (N M : Nat) (s s' : State) (owner newOwner : Nat) (amount : Coins)
    (hi : Inv N M s) (ho : owner < N) (hn : newOwner < N)
    (h : transfer M codeOrder s owner newOwner amount = .ok s') : Inv N M s' := by
  obtain ⟨hle, rfl⟩ := transfer_spec M codeOrder s s' owner newOwner amount (fun h => nomatch h) h
  exact moved_inv N M s owner newOwner _ hi ho hn hle

/-- partial result that still holds for the credit-first order (the order before the repair 4c307a0) -/
theorem transfer_inv_creditFirst_partial (N M : Nat) (s s' : State) (owner newOwner : Nat)
    (amount : Coins) (hne : owner ≠ newOwner)
    (hi : Inv N M s) (ho : owner < N) (hn : newOwner < N)
    (h : transfer M true s owner newOwner amount = .ok s') : Inv N M s' := by
  obtain ⟨hle, rfl⟩ := transfer_spec M true s s' owner newOwner amount (fun _ => hne) h
  exact moved_inv N M s owner newOwner _ hi ho hn hle

def Op.wf (N M : Nat) (op : Op) : Prop := (∀ a ∈ op.addrs, a < N) ∧ (∀ d ∈ op.denoms, d < M)

theorem step_inv (N M : Nat) (allowed : Nat → Bool) (s : State) (op : Op)
    (hi : Inv N M s) (hw : op.wf N M) : Inv N M (stepKeep M allowed codeOrder s op) := by
  unfold stepKeep
  split
  · next s' hs' =>
    revert hs'
    -- the branches of `step`: fund; the two transfers, each behind the message server's refusals; the two fixtures
    fun_cases step M allowed codeOrder s op with
    | case1 a c =>
      exact fund_inv N M allowed s s' a c hi (hw.1 a List.mem_cons_self) fun p hp => hw.2 p.1 (List.mem_map_of_mem hp)
    | case2 | case4 | case5 => nofun
    | case3 a b | case6 a b =>
      exact transfer_inv N M s s' a b _ hi (hw.1 a List.mem_cons_self) (hw.1 b (.tail _ List.mem_cons_self))
    -- the state is `{ s with enabled := b }` / `{ s with bank := … }`, not `s`: `Inv` is rebuilt field by field
    | case7 | case8 => rintro ⟨⟩; exact { hi with }
  · exact hi

/-- **C12 for every reachable state**: after any sequence of fund / full-transfer / transfer-by-amount messages (and
    module switches, and bank top-ups) over any number of accounts and denominations, `Inv` holds.  For ratio
    transfers see the file header. -/
theorem run_inv (N M : Nat) (allowed : Nat → Bool) (ops : List Op) (hw : ∀ op ∈ ops, op.wf N M) :
    Inv N M (run M allowed codeOrder State.init ops) :=
  List.foldlRecOn ops _ (inv_init N M) fun s hs op hop => step_inv N M allowed s op hs (hw op hop)

/-- full transfer hands over the whole share -/
theorem transferAll_exact (M : Nat) (s s' : State) (owner newOwner : Nat)
    (hb : ∀ d, M ≤ d → s.bal owner d = 0)
    (h : step M (fun _ => true) codeOrder s (.transferAll owner newOwner) = .ok s') :
    s'.bal = moveSpec s.bal owner newOwner (s.bal owner) := by
  rw [step, ite_error_eq_ok] at h
  rw [(transfer_exact M s s' owner newOwner _ h.2).1]
  congr 1
  funext d
  rw [amountOf_accountCoins]
  split
  · rfl
  · next hd => exact (hb d (Nat.le_of_not_lt hd)).symm

/-- non-vacuity: a concrete history with a self-transfer, a cross transfer and a failing one
    satisfies the hypotheses of `run_inv` and ends in a non-trivial state. -/
example :
    let ops : List Op := [.bankMint 0 0 1000, .bankMint 1 1 50, .fund 0 [(0, 700)], .fund 1 [(1, 50)],
      .transferAmount 0 0 [(0, 400)], .transferAmount 0 1 [(0, 300)], .transferAll 1 2,
      .transferAmount 0 1 [(0, 401)]]
    (∀ op ∈ ops, op.wf 3 2) ∧
    (run 2 (fun _ => true) codeOrder State.init ops).bal 2 0 = 300 ∧
    (run 2 (fun _ => true) codeOrder State.init ops).bal 0 0 = 400 ∧
    (run 2 (fun _ => true) codeOrder State.init ops).total 0 = 700 := by
  unfold Op.wf
  decide +kernel

end Haqq.Dao

namespace Haqq.DaoGenesis

/-- a genesis balance entry: (address, amount of one denomination) -/
abbrev Entry := Nat × Nat

/-- the balance store after InitGenesis wrote the entries in order: a later entry for an address overwrites an earlier one
    (Go's `initBalances` skips a zero amount, which then does not overwrite — a difference only for lists with a repeated
    address, which `accepts true` refuses) -/
def store : List Entry → Nat → Nat
  | [] => fun _ => 0
  | e :: rest => fun a => if rest.any (·.1 == a) then store rest a else if a = e.1 then e.2 else 0

/-- the recorded total: every listed entry is added -/
def total (bs : List Entry) : Nat := (bs.map (·.2)).sum

/-- the holders' balances added up (each holder once) -/
def holdersSum (bs : List Entry) : Nat := (((bs.map (·.1)).eraseDups).map (store bs)).sum

/-- InitGenesis since 5f6d79f refuses a repeated address (`strict`); before, everything was taken -/
def accepts (strict : Bool) (bs : List Entry) : Bool := !strict || decide ((bs.map (·.1)).Nodup)

theorem store_cons (e : Entry) (rest : List Entry) (a : Nat) :
    store (e :: rest) a = if a ∈ rest.map (·.1) then store rest a else if a = e.1 then e.2 else 0 := by
  simp only [store, List.any_eq_true, List.mem_map, beq_iff_eq]

theorem sum_over_keys (bs : List Entry) (h : (bs.map (·.1)).Nodup) :
    ((bs.map (·.1)).map (store bs)).sum = total bs := by
  induction bs with
  | nil => rfl
  | cons e rest ih =>
    rw [List.map_cons, List.nodup_cons] at h
    rw [List.map_cons, List.map_cons, List.sum_cons, store_cons, if_neg h.1, if_pos rfl,
      List.map_congr_left fun a ha => (store_cons e rest a).trans (if_pos ha), ih h.2]
    rfl

/-- **C12, genesis.** A DAO genesis that InitGenesis accepts leaves books that add up: the holders' balances sum to the
    recorded total. -/
theorem accepted_genesis_adds_up (bs : List Entry) (h : accepts true bs = true) : holdersSum bs = total bs := by
  have hn : (bs.map (·.1)).Nodup := by simpa [accepts] using h
  unfold holdersSum
  rw [eraseDups_of_nodup _ hn]
  exact sum_over_keys bs hn

/-- before 5f6d79f: the genesis listing address 1 twice with 100 each was accepted; the holder has 100, the recorded total is
    200; now it is refused -/
theorem repeated_address_counterexample :
    accepts false [(1, 100), (1, 100)] = true ∧ holdersSum [(1, 100), (1, 100)] = 100 ∧ total [(1, 100), (1, 100)] = 200 ∧
    accepts true [(1, 100), (1, 100)] = false := by decide

/-- the premise is satisfiable -/
example : accepts true [(1, 100), (2, 5)] = true ∧ holdersSum [(1, 100), (2, 5)] = 105 := by decide

/-- the code's side of `accepts true`: InitGenesis refuses a repeated address (regenerated from x/ucdao/keeper/genesis.go) -/
theorem genesis_refuses_repeated_address : Haqq.Facts.daoGenesisRepeatedAddress = "refused" := rfl

end Haqq.DaoGenesis

