/-
  C05 — A reverted EVM call frame leaves no trace, precompiles included.

  English statement (properties.jsonl):
    If any call frame of an Ethereum transaction reverts or runs out of gas, every state change made inside
    that frame is undone - contract storage, balances and logs, and equally the Cosmos-side effects of
    precompile calls made in it (delegations, reward withdrawals, IBC transfers, grants).  A transaction
    that ultimately fails changes nothing except the fee payment and the nonce.

  Formalisation.  The StateDB is modelled with its journal (`Model/StateDB.lean`); every EVM-side mutation is
  a sequence of micro-operations that append at most one journal entry each.
    * `revert_restores` / `snapshot_revert_restores`: for every sequence of EVM-side mutations, reverting to
      the snapshot restores the *whole* StateDB (cached objects, storage, refund counter, logs, access list,
      journal, dirty counts) — provided `Sat` (every existing account is already cached: loading one into the cache is
      not journalled), `RevWF` (the recorded revision ids lie below the next one; `revertTo` forms only) and no Commit
      in between.
    * `nested_snapshot_revert`: the same when the frame also took any number of further snapshots (inner frames)
      at any points: reverting to the frame's own snapshot finds the right journal length among the revisions and
      restores the StateDB, including the list of older revisions.
    * `flush_then_revert_counterexample`: with a Commit inside the reverted span — which is what every
      stateful precompile performs on entry — the frame's EVM-side writes survive the revert (the recorded finding
      `C05:flush-then-revert:evm-state-persists`, together with the Cosmos-side effects, which no journal covers).
    * `failed_tx_discards_everything`: a transaction that fails as a whole runs on a cached copy of the
      keeper state that is dropped.
-/
import HaqqModel.Lemmas.StateDB
import HaqqModel.Generated.Facts

namespace Haqq.SDB

/-- every existing account is already cached (so `get` is a pure cache lookup) -/
def Sat (db : DB) : Prop := ∀ a, db.objs a = none → db.k.exist a = false

theorem get_sat (db : DB) (h : Sat db) (a : Nat) : db.get a = db.objs a := by
  cases ho : db.objs a with
  | some o => exact get_of_objs ho
  | none => exact get_eq_none.2 ⟨ho, h a ho⟩

/-- caching every existing account gives a `Sat` state on which `get` returns what it did (`saturate_sat`,
    `saturate_get`); that the operations commute with it is not proved -/
def saturate (db : DB) : DB := { db with objs := fun a => db.get a }

theorem saturate_sat (db : DB) : Sat (saturate db) :=
  fun _ h => (get_eq_none.1 h).2

theorem saturate_get (db : DB) (a : Nat) : (saturate db).get a = db.get a :=
  get_cached rfl rfl

theorem load_sat (db : DB) (h : Sat db) (a : Nat) : db.load a = db := by
  rw [load_eq, get_sat db h, upd_self]

theorem mstep_eq_core (db : DB) (h : Sat db) (op : MOp) : mstep db op = mstepCore db op := by
  fun_cases mstep db op with
  | case1 a => rw [load_sat db h a]
  | case2 => rfl

theorem mstep_sat (db : DB) (op : MOp) (h : Sat db) : Sat (mstepCore db op) := by
  intro a ha
  rw [(mstepCore_frame db op).k]
  exact h a (mstepCore_objs_none ha)

theorem revert_one (db : DB) (op : MOp) (h : Sat db) :
    revertJournal (mstepCore db op) db.journal.length = db :=
  revert_mstepCore db op fun a _ => get_sat db h a

theorem revertEntries_keeps (es : List Entry) : ∀ (db : DB) (n : Nat),
    (revertEntries db es n).revisions = db.revisions ∧ (revertEntries db es n).nextRev = db.nextRev := by
  intro db n
  rw [show revertEntries db es n = _ from revertEntries_frame es db db.journal db.revisions db.nextRev n]
  exact ⟨rfl, rfl⟩

theorem revertEntries_journal (es : List Entry) : ∀ (db : DB) (n : Nat),
    (revertEntries db es n).journal.length ≤ es.length := by
  intro db n
  fun_induction revertEntries db es n with
  | case1 | case2 => exact Nat.le_refl _  -- no entry, or `n` entries left: the journal is `es`
  | case3 _ _ _ _ _ ih => exact Nat.le_succ_of_le ih  -- the newest entry is undone

def RevWF (db : DB) : Prop := ∀ r ∈ db.revisions, r.1 < db.nextRev

/-- what happens inside a frame: journalled mutations and snapshots of inner frames, in any order -/
inductive SOp
  | m (op : MOp)
  | snap

def sstep (db : DB) : SOp → DB
  | .m op => mstep db op
  | .snap => (snapshot db).1

theorem sstep_sat (db : DB) (op : SOp) (h : Sat db) : Sat (sstep db op) := by
  cases op with
  | m o => simp only [sstep, mstep_eq_core db h o]; exact mstep_sat db o h
  | snap => exact h

theorem sstep_len (db : DB) (op : SOp) : db.journal.length ≤ (sstep db op).journal.length := by
  cases op with
  | m o => exact (mstep_frame db o).journal_le
  | snap => exact Nat.le_refl _

theorem sstep_revert (db : DB) (op : SOp) (h : Sat db) :
    revertJournal (sstep db op) db.journal.length =
      { db with revisions := (sstep db op).revisions, nextRev := (sstep db op).nextRev } := by
  cases op with
  | m o =>
    simp only [sstep, mstep_eq_core db h o]
    rw [revert_one db o h, (mstepCore_frame db o).revisions, (mstepCore_frame db o).nextRev]
  | snap => exact (revertJournal_frame db _ _ _).trans (by rw [revert_noop]; rfl)

theorem revert_restores_nested (ops : List SOp) : ∀ (db : DB), Sat db →
    revertJournal (ops.foldl sstep db) db.journal.length =
      { db with revisions := (ops.foldl sstep db).revisions, nextRev := (ops.foldl sstep db).nextRev } := by
  induction ops with
  | nil => intro db _; exact revert_noop db
  | cons op rest ih =>
    intro db hs
    rw [List.foldl_cons, ← revertJournal_trans _ _ _ (sstep_len db op), ih _ (sstep_sat db op hs), revertJournal_frame,
      sstep_revert db op hs]

theorem foldl_mstep_frame (ops : List MOp) (db : DB) :
    (ops.map SOp.m).foldl sstep db = ops.foldl mstep db ∧ Framed db (ops.foldl mstep db) :=
  ⟨List.foldl_map, List.foldlRecOn ops mstep (motive := Framed db) (.refl db) fun d hd op _ => hd.trans (mstep_frame d op)⟩

theorem revert_restores (ops : List MOp) (db : DB) (h : Sat db) :
    revertJournal (ops.foldl mstep db) db.journal.length = db := by
  obtain ⟨e, f⟩ := foldl_mstep_frame ops db
  rw [← e, revert_restores_nested _ db h, e, f.revisions, f.nextRev]

theorem foldl_sstep_revs (ops : List SOp) (db : DB) :
    ∃ pre, (ops.foldl sstep db).revisions = pre ++ db.revisions ∧
      (∀ r ∈ pre, db.nextRev ≤ r.1 ∧ r.1 < (ops.foldl sstep db).nextRev) ∧
      db.nextRev ≤ (ops.foldl sstep db).nextRev := by
  refine List.foldlRecOn ops sstep (motive := fun d => ∃ pre, d.revisions = pre ++ db.revisions ∧
    (∀ r ∈ pre, db.nextRev ≤ r.1 ∧ r.1 < d.nextRev) ∧ db.nextRev ≤ d.nextRev) ⟨[], rfl, by nofun, Nat.le_refl _⟩ ?_
  rintro d ⟨pre, h1, h2, h3⟩ (o | _) _
  · simp only [sstep, (mstep_frame d o).revisions, (mstep_frame d o).nextRev]
    exact ⟨pre, h1, h2, h3⟩
  · refine ⟨(d.nextRev, d.journal.length) :: pre, by simp only [sstep, snapshot, h1, List.cons_append], ?_, Nat.le_succ_of_le h3⟩
    intro r hr
    rcases List.mem_cons.mp hr with rfl | hr
    · exact ⟨h3, Nat.lt_succ_self _⟩
    · exact ⟨(h2 r hr).1, Nat.lt_succ_of_lt (h2 r hr).2⟩

theorem foldl_sstep_revisions (ops : List SOp) : ∀ (db : DB) (id len : Nat),
    (id, len) ∈ db.revisions → (∀ r ∈ db.revisions, r.1 < db.nextRev) →
    (id, len) ∈ (ops.foldl sstep db).revisions ∧ (∀ r ∈ (ops.foldl sstep db).revisions, r.1 < (ops.foldl sstep db).nextRev) ∧
    (∀ r ∈ (ops.foldl sstep db).revisions, r ∈ db.revisions ∨ db.nextRev ≤ r.1) := by
  intro db id len h hw
  obtain ⟨pre, h1, h2, h3⟩ := foldl_sstep_revs ops db
  rw [h1]
  refine ⟨List.mem_append_right _ h, fun r hr => ?_, fun r hr => ?_⟩
  · rcases List.mem_append.mp hr with hp | ho
    · exact (h2 r hp).2
    · exact Nat.lt_of_lt_of_le (hw r ho) h3
  · rcases List.mem_append.mp hr with hp | ho
    · exact .inr (h2 r hp).1
    · exact .inl ho

theorem revisions_find_filter (pre R : List (Nat × Nat)) (id len : Nat) (hpre : ∀ r ∈ pre, id < r.1)
    (hR : ∀ r ∈ R, r.1 < id) :
    (pre ++ (id, len) :: R).find? (·.1 == id) = some (id, len) ∧
    (pre ++ (id, len) :: R).filter (fun r => decide (r.1 < id)) = R := by
  constructor
  · rw [List.find?_append, List.find?_eq_none.2 fun r hr h => Nat.ne_of_gt (hpre r hr) (beq_iff_eq.1 h)]
    simp only [List.find?_cons, beq_self_eq_true, Option.none_or]
  · rw [List.filter_append, List.filter_eq_nil_iff.2 fun r hr h => Nat.lt_asymm (hpre r hr) (of_decide_eq_true h),
      List.nil_append, List.filter_cons, if_neg fun h => Nat.lt_irrefl id (of_decide_eq_true h)]
    exact List.filter_eq_self.2 fun r hr => decide_eq_true (hR r hr)

/-- only the revision counter has moved on; the older revisions are back because `revertTo` cuts the list at the frame's
    own id (`revisions_find_filter`) -/
theorem nested_snapshot_revert (db : DB) (hs : Sat db) (hw : RevWF db) (ops : List SOp) :
    revertTo (ops.foldl sstep (snapshot db).1) (snapshot db).2 =
      some { db with nextRev := (ops.foldl sstep (snapshot db).1).nextRev } := by
  obtain ⟨pre, hrev, hpre, _⟩ := foldl_sstep_revs ops (snapshot db).1
  obtain ⟨hfind, hfilter⟩ := revisions_find_filter pre db.revisions db.nextRev db.journal.length
    (fun r hr => (hpre r hr).1) hw
  refine (revertTo_eq _ _ _ _ (hrev ▸ hfind) (hrev ▸ hfilter)).trans ?_
  exact congrArg (fun d => some { d with revisions := db.revisions }) (revert_restores_nested ops (snapshot db).1 hs)

theorem snapshot_revert_restores (db : DB) (hs : Sat db) (hw : RevWF db) (ops : List MOp) :
    revertTo (ops.foldl mstep (snapshot db).1) (snapshot db).2 = some { db with nextRev := db.nextRev + 1 } := by
  obtain ⟨e, f⟩ := foldl_mstep_frame ops (snapshot db).1
  rw [← e, nested_snapshot_revert db hs hw, e, f.nextRev]
  rfl

/-- a transaction that fails as a whole: ApplyTransaction runs the message on a cached copy of the store
    (`tmpCtx`) and writes it back only when the execution did not fail — modelled as: the keeper state after a
    failed execution is the keeper state before it, whatever the StateDB committed into the copy -/
def applyTx (k : Keeper) (run : Keeper → Keeper × Bool) : Keeper :=
  let r := run k
  if r.2 then k else r.1

theorem failed_tx_discards_everything (k : Keeper) (run : Keeper → Keeper × Bool) (h : (run k).2 = true) :
    applyTx k run = k :=
  if_pos h

/-- `applyTx` is what ApplyTransaction does (regenerated facts): the message runs on a branch of the state whenever the
    keeper has hooks, app.go installs hooks, and the one `commit()` of that branch is reached only when the message did
    not fail and the hooks returned no error — whatever the destination of the transaction is (contract, precompile,
    plain account) -/
theorem failed_tx_runs_on_a_dropped_branch :
    Facts.evmApplyTxBranchCondition = "k.hooks != nil" ∧ Facts.evmApplyTxCommitsOnlyOnSuccess = true ∧
    Facts.appInstallsEvmHooks = true := by decide +kernel

/-- the same one level down: the Cosmos message a stateful precompile runs does so on a branch of the state written back
    only when the message succeeded (regenerated fact, all nine methods) — so a message that fails half way (the
    distribution hooks of a delegation have run, the bank refuses the transfer) leaves nothing, whatever the calling
    contract does with the failed call; `applyTx` is the shape of that too (`failed_tx_discards_everything`) -/
theorem precompile_messages_run_on_a_branch :
    Facts.precompileMessageOnBranch.all (fun p => p.2 == "message-on-branch") = true ∧
    Facts.precompileMessageOnBranch.length = 9 := by decide +kernel

def k0 : Keeper := { exist := fun a => a == 0, bal := fun a => if a = 0 then 100 else 0, nonce := fun _ => 0,
                     store := fun _ _ => 0, supply := 0 }

/-- contract 0 writes slot 1 := 7 and moves 30 to the new account 3, a precompile is entered (Commit), the frame
    reverts; the journal restores the cache of account 0, but account 3 was created by the flush and the final Commit
    no longer covers account 0, so the keeper keeps the slot and both balances of the reverted frame. -/
theorem flush_then_revert_counterexample :
    let db0 := DB.new k0
    let s := snapshot db0
    let db1 := addBalance (subBalance (setState s.1 0 1 7) 0 30) 3 30
    let db2 := commit db1 [0, 1, 2, 3] [0, 1]                      -- precompile entry
    match revertTo db2 s.2 with
    | some db3 =>
      let db4 := commit db3 [0, 1, 2, 3] [0, 1]                    -- end of the transaction
      db4.k.store 0 1 = 7 ∧ db4.k.bal 0 = 70 ∧ db4.k.bal 3 = 30 ∧ db3.getState 0 1 = 0
    | none => False := by
  intro db0 s db1 db2
  rw [revertTo_eq db2 s.2 0 [] (by decide) (by decide)]
  decide

/-- non-vacuity of `revert_restores`: a saturated DB and a mixed op sequence -/
example : Sat (saturate (DB.new k0)) ∧
    revertJournal ([MOp.setBal 0 70, .create 3, .setBal 3 30, .setState 0 1 7, .addLog, .accSlot 0 1, .suicide 0].foldl mstep
      (saturate (DB.new k0))) 0 = saturate (DB.new k0) :=
  ⟨saturate_sat _, revert_restores _ _ (saturate_sat _)⟩

end Haqq.SDB
