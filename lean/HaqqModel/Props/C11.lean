/-
  C11 — Liquid vesting conserves backing and never unlocks early.

  English statement (properties.jsonl):
    Liquidating locked coins splits a lockup schedule exactly: for every period the amount left on the
    account plus the amount moved to the liquid token equals the original period amount, no part is
    negative, and the moved total equals the requested amount.  Every liquid token in circulation is
    backed one-for-one by native coins held by the module, its recorded schedule always sums to its
    supply, and redeeming returns exactly the redeemed amount under a schedule that releases nothing
    earlier than the original one did.

  Formalisation: amounts are natural numbers (no part can be negative by construction; the model's
  truncated subtraction is shown never to truncate: left + moved = original).  "Nothing earlier" is
  proved in the strongest form — equality of release functions at every instant:
  account-after + liquid = account-before (`liquidate_exact_split`), and
  remaining-denom + redeemed = denom-before (`redeem_exact_split`); the redeemed part reaches the
  recipient through `ApplyVestingSchedule`, which merges it at the denomination's own start time for the
  code as it is now (`Props/C09.applySchedule_passes_grant_start`, a regenerated fact).  Backing: `lv_inv` (`LVInv`: every
  liquid denomination's recorded schedule sums to its supply, and the module's escrow equals the total liquid supply).
-/
import HaqqModel.Lemmas.Liquid
import HaqqModel.Props.C09

namespace Haqq.Liquid
open Haqq.Sched Haqq.Vest

/-- per period: left + moved = original (every denomination), lengths unchanged, only the target
    denomination moves, the moved total equals the requested amount -/
theorem subtract_conserves (ps : List Period) (denom s : Nat) (dec diff : List Period)
    (h : subtractAmountFromPeriods ps denom s = some (dec, diff)) :
    (∀ d, SplitAt d ps dec diff) ∧
    sumList (diff.map fun p => p.amount denom) = s ∧
    (∀ p ∈ diff, ∀ d, d ≠ denom → p.amount d = 0) := by
  revert h
  fun_cases subtractAmountFromPeriods ps denom s with
  | case1 => nofun
  | case2 pairs hp =>
    rintro ⟨⟩
    obtain ⟨hsum, hmoved⟩ := subtractAmounts_eq_some hp
    obtain ⟨h1, h2, h3⟩ := mkDec_mkDiff_spec denom ps pairs hsum
    exact ⟨h1, h2 ▸ hmoved, h3⟩

theorem subtract_err_iff (ps : List Period) (denom s : Nat) :
    subtractAmountFromPeriods ps denom s = none ↔
      (sumList (ps.map fun p => p.amount denom) < s ∨ sumList (ps.map fun p => p.amount denom) = 0) := by
  rw [← subtractAmounts_eq_none]
  fun_cases subtractAmountFromPeriods ps denom s with
  | case1 h => exact iff_of_true rfl h
  | case2 pairs h => exact iff_of_false nofun (h ▸ nofun)

theorem subtract_remaining {ps : List Period} {denom s : Nat} {dec diff : List Period}
    (h : subtractAmountFromPeriods ps denom s = some (dec, diff)) :
    sumList (dec.map fun p => p.amount denom) + s = sumList (ps.map fun p => p.amount denom) := by
  obtain ⟨hsplit, hmoved, -⟩ := subtract_conserves ps denom s dec diff h
  have := (hsplit denom).total
  rw [totalAmount_eq_sumList, totalAmount_eq_sumList, totalAmount_eq_sumList, hmoved] at this
  exact this.symm

/-- The schedule part of Liquidate: the periods of `ps` still to come at `now` are split; what stays goes back behind the
    passed ones (`ps'`, read from `e` like `ps`), what moves starts at `now`, its first period shortened by the time already
    spent in it (`diff'`).  `ps'`, `diff'` are variables with their defining equations as hypotheses: the caller passes the
    equations `liquidate_eq_ok` gives it and never rewrites its goal with them. -/
theorem split_upcoming {ps : List Period} (hwf : WF ps) {e now : Int} {denom s : Nat}
    {dec diff : List Period}
    (hsub : subtractAmountFromPeriods (ps.drop (pastLoop e ps now)) denom s = some (dec, diff))
    (ps' diff' : List Period) (hps' : ps' = replaceTail ps dec)
    (hdiff' : diff' = alignFirst diff (-(shiftLoop e now ps'))) :
    (∀ t d, readLoop e ps t d = readLoop e ps' t d + readLoop now diff' t d) ∧ WF ps' ∧ WF diff' := by
  have hsplit := (subtract_conserves _ denom s dec diff hsub).1
  obtain ⟨hgdec, hgdiff⟩ := (hsplit denom).grid
  have hnext := (pastLoop_bounds ps e now).2
  -- a period is still to come, since the subtraction found something in it
  have hup : ps.drop (pastLoop e ps now) ≠ [] := fun h0 => by
    rw [h0, (subtract_err_iff [] denom s).2 (.inr rfl)] at hsub; cases hsub
  obtain ⟨hrt, hgrid⟩ := replaceTail_drop (pastLoop_le_length ps e now) hgdec
  rw [← hps'] at hrt hgrid
  have hshift : shiftLoop e now ps' = now - (e + totalLength (ps.take (pastLoop e ps now))) := by
    rw [shiftLoop_congr _ _ _ _ hgrid, shiftLoop_eq, if_neg]
    intro h; exact hup (by rw [h]; exact List.drop_length)
  have hwp := WF_take ps (pastLoop e ps now) hwf
  have hwu := WF_drop ps (pastLoop e ps now) hwf
  have hwdec := WF_congr hgdec.symm hwu
  have hwdiff := WF_congr hgdiff.symm hwu
  have hread : ∀ t d, readLoop now diff' t d =
      readLoop (e + totalLength (ps.take (pastLoop e ps now))) diff t d :=
    fun t d => hdiff' ▸ readLoop_alignFirst (by rw [hshift, ← Int.sub_eq_add_neg, Int.sub_sub_self]) diff t d
  refine ⟨fun t d => ?_, hrt ▸ WF_append hwp hwdec, ?_⟩
  · rw [hread, hrt, readLoop_append hwp hwdec, Nat.add_assoc, ← (hsplit d).read,
      ← readLoop_append hwp hwu, List.take_append_drop]
  · -- the period `now` lies in has not ended: the shift is smaller than its length
    rw [hdiff']
    apply WF_alignFirst hwdiff
    rw [hgdiff, hshift]
    intro l hl
    have key : now ≤ e + totalLength (ps.take (pastLoop e ps now)) + l := Int.le_of_lt (hnext l hl)
    rw [Int.neg_sub, ← Int.add_sub_assoc, Int.add_comm]
    exact Int.sub_nonneg_of_le key

section
variable {M : Nat} {a : Account} {denom s : Nat} {now : Int} {a' : Account} {ld : LDenom}

theorem liquidate_eq_ok (h : liquidate M a denom s now = .ok (a', ld)) :
    (∀ d, d < M → a.unvested now d = 0) ∧ a.lockedUp now denom ≠ 0 ∧ s ≤ a.lockedUp now denom ∧
    ∃ dec diff decV dv,
      subtractAmountFromPeriods (extractUpcoming a.start a.endT a.lockup now) denom s = some (dec, diff) ∧
      subtractAmountFromPeriods a.vesting denom s = some (decV, dv) ∧
      a' = { a with lockup := replaceTail a.lockup dec, vesting := replaceTail a.vesting decV,
                    original := fun x => if x = denom then a.original x - s else a.original x } ∧
      ld.start = now ∧ ld.periods = alignFirst diff (-(currentPeriodShift a.start now a'.lockup)) ∧
      ld.endT = now + totalLength ld.periods := by
  revert h
  -- the one accepting branch: `c1`, `c2`, `c3` are the three guards passed (nothing unvested, a locked target, enough of
  -- it), `hsub` / `hsubV` what the subtractions from lockup and vesting returned; the `_` are `let`s of the definition
  fun_cases liquidate M a denom s now with
  | case6 c1 c2 c3 _ dec diff hsub _ decV dv hsubV =>
    intro h
    -- not `cases h`: the result is built from the definition's `let`s, which it cannot substitute
    obtain ⟨rfl, rfl⟩ := Prod.mk.inj (Except.ok.inj h)
    rw [Bool.not_eq_true', Bool.not_eq_false, Amt.isZero_iff] at c1
    exact ⟨c1, c2, Nat.le_of_not_lt c3, dec, diff, decV, dv, hsub, hsubV, rfl, rfl, rfl, rfl⟩
  | _ => nofun  -- the five refusals

theorem liquidate_supply (h : liquidate M a denom s now = .ok (a', ld)) : totalAmount ld.periods denom = s := by
  obtain ⟨-, -, -, dec, diff, -, -, hsub, -, -, -, hlp, -⟩ := liquidate_eq_ok h
  rw [hlp, totalAmount_alignFirst, totalAmount_eq_sumList]
  exact (subtract_conserves _ denom s dec diff hsub).2.1

/-- an accepted Liquidate happened strictly inside the schedule: up to the start nothing is vested, so the
    whole target denomination would count as unvested; from the end on nothing is locked -/
theorem liquidate_window (hd : denom < M) (h : liquidate M a denom s now = .ok (a', ld)) :
    a.start < now ∧ now < a.endT := by
  obtain ⟨c1, c2, -⟩ := liquidate_eq_ok h
  have hstart : a.start < now := by
    apply Int.lt_of_not_ge
    intro hge
    have := c1 denom hd
    rw [Account.unvested, Account.vested, read_zero _ _ _ _ _ hge] at this
    exact c2 (Nat.eq_zero_of_le_zero (this ▸ Nat.sub_le ..))
  refine ⟨hstart, Int.lt_of_not_ge fun hge => c2 ?_⟩
  rw [Account.lockedUp, Account.unlocked, read_total _ _ _ _ _ hstart hge]
  exact Nat.sub_self _

end

/-- Liquidate is refused while the schedule has not started (then `CurrentPeriodShift` would be 0
    and the liquid schedule would run early): success implies start < now (and now < end: `liquidate_window`). -/
theorem liquidate_guard_started (M : Nat) (a : Account) (denom s : Nat) (hd : denom < M) (now : Int)
    (a' : Account) (ld : LDenom) (h : liquidate M a denom s now = .ok (a', ld)) : a.start < now :=
  (liquidate_window hd h).1

/-- **exact split at the same instants**: after Liquidate, at every instant and in every denomination,
    what the account's lockup schedule has released plus what the liquid denomination's schedule has
    released equals what the account's schedule had released before — nothing earlier, nothing later.
    (Release functions are read as step functions from the respective start times.) -/
theorem liquidate_exact_split (M : Nat) (a : Account) (hv : AccValid a) (denom s : Nat) (hd : denom < M)
    (now : Int) (a' : Account) (ld : LDenom) (h : liquidate M a denom s now = .ok (a', ld)) (t : Int) (d : Nat) :
    readLoop a.start a.lockup t d = readLoop a'.start a'.lockup t d + readLoop ld.start ld.periods t d ∧
    a'.start = a.start ∧ a'.endT = a.endT ∧ a'.original denom + s = a.original denom ∧
    totalAmount ld.periods denom = s ∧ WF ld.periods ∧ WF a'.lockup ∧
    totalAmount a'.lockup d + totalAmount ld.periods d = totalAmount a.lockup d := by
  obtain ⟨hstart, hend⟩ := liquidate_window hd h
  obtain ⟨-, -, c3, dec, diff, decV, dv, hsub, -, rfl, hls, hlp, -⟩ := liquidate_eq_ok h
  rw [extractUpcoming, readPastPeriodCount_running _ hstart hend] at hsub
  rw [currentPeriodShift, if_neg (Int.not_le.2 hstart)] at hlp
  obtain ⟨hread, hw', hwd⟩ := split_upcoming hv.lockup.wf hsub _ _ rfl hlp
  have hs : s ≤ a.original denom := Nat.le_trans c3 (Nat.sub_le ..)
  rw [hls]
  exact ⟨hread t d, rfl, rfl, by simp only [if_true]; exact Nat.sub_add_cancel hs,
    liquidate_supply h, hwd, hw',
    -- the totals are the readings once all three schedules have ended
    total_of_read (R := fun x y z => y + z = x) hv.lockup.wf hw' hwd fun t => (hread t d).symm⟩

/-- `left = none` tests the sum in `denom` only, Go tests `decreasedPeriods.TotalAmount().IsZero()` over all denominations:
    the same, since a liquid record holds its original denomination only (Liquidate creates it from `mkDiff`: `single`) -/
theorem redeem_eq_some {ld : LDenom} {denom s : Nat} {now : Int} {left : Option LDenom}
    {grant : Option (Int × List Period × List Period)} (h : redeem ld denom s now = some (left, grant)) :
    ∃ dec diff, subtractAmountFromPeriods ld.periods denom s = some (dec, diff) ∧
      left = (if sumList (dec.map fun p => p.amount denom) = 0 then none else some { ld with periods := dec }) ∧
      grant = (if (extractUpcoming ld.start ld.endT diff now).isEmpty then none
               else some (ld.start, diff, [(⟨0, single denom s⟩ : Period)])) := by
  revert h
  fun_cases redeem ld denom s now with
  | case1 => nofun
  | case2 dec diff hsub =>
    intro h
    obtain ⟨rfl, rfl⟩ := Prod.mk.inj (Option.some.inj h)
    exact ⟨dec, diff, hsub, rfl, rfl⟩

theorem redeem_exact_split (ld : LDenom) (denom s : Nat) (now : Int)
    (left : Option LDenom) (grant : Option (Int × List Period × List Period))
    (h : redeem ld denom s now = some (left, grant)) :
    ∃ dec diff,
      subtractAmountFromPeriods ld.periods denom s = some (dec, diff) ∧
      (∀ t d, readLoop ld.start ld.periods t d = readLoop ld.start dec t d + readLoop ld.start diff t d) ∧
      sumList (diff.map fun p => p.amount denom) = s ∧
      sumList (dec.map fun p => p.amount denom) + s = sumList (ld.periods.map fun p => p.amount denom) ∧
      (left = none ↔ sumList (dec.map fun p => p.amount denom) = 0) ∧
      (∀ l, left = some l → l = { ld with periods := dec }) ∧
      (∀ g, grant = some g → g = (ld.start, diff, [(⟨0, single denom s⟩ : Period)])) := by
  obtain ⟨dec, diff, hsub, rfl, rfl⟩ := redeem_eq_some h
  obtain ⟨hsplit, hmoved, -⟩ := subtract_conserves _ denom s dec diff hsub
  refine ⟨dec, diff, hsub, fun t d => (hsplit d).read _ t, hmoved, subtract_remaining hsub, ?_, ?_, ?_⟩
  · split <;> simp [*]
  · exact fun l hl => (Option.some.inj (Option.ite_none_left_eq_some.1 hl).2).symm
  · exact fun g hg => (Option.some.inj (Option.ite_none_left_eq_some.1 hg).2).symm

/-- **never early**: what a redeemer receives is released no earlier than the liquid denomination's own
    schedule released it — at every instant the redeemed part's release is bounded by (indeed a summand
    of) the denomination's release -/
theorem redeem_no_early_unlock (ld : LDenom) (denom s : Nat) (now : Int)
    (left : Option LDenom) (grant : Option (Int × List Period × List Period))
    (h : redeem ld denom s now = some (left, grant)) (t : Int) (d : Nat) :
    ∀ g, grant = some g → g.1 = ld.start ∧ readLoop g.1 g.2.1 t d ≤ readLoop ld.start ld.periods t d := by
  obtain ⟨dec, diff, -, hread, -, -, -, -, hg⟩ := redeem_exact_split ld denom s now left grant h
  intro g hgs
  rw [hg g hgs]
  exact ⟨rfl, hread t d ▸ Nat.le_add_left ..⟩

/-- a redeem without a schedule (plain transfer) happens only when every period of the redeemed part
    has already ended -/
theorem redeem_plain_only_when_unlocked (ld : LDenom) (hwf : WF ld.periods) (hend : ld.endT = ld.start + totalLength ld.periods)
    (denom s : Nat) (now : Int) (left : Option LDenom)
    (h : redeem ld denom s now = some (left, none)) :
    ∃ dec diff, subtractAmountFromPeriods ld.periods denom s = some (dec, diff) ∧
      ∀ d, readLoop ld.start diff now d = totalAmount diff d := by
  obtain ⟨dec, diff, hsub, -, hg⟩ := redeem_eq_some h
  refine ⟨dec, diff, hsub, fun d => ?_⟩
  obtain ⟨-, hgrid⟩ := ((subtract_conserves _ denom s dec diff hsub).1 d).grid
  apply readLoop_of_upcoming_nil (endT := ld.endT) (WF_congr hgrid.symm hwf)
    (Int.le_of_eq (by rw [totalLength_congr hgrid, hend]))
  split at hg
  · exact List.isEmpty_iff.1 ‹_›
  · cases hg

/-- module-level bookkeeping: the liquid denominations with their recorded schedules and their bank
    supplies, and the native coins escrowed in the module account -/
structure LVState where
  denoms : List (LDenom × Nat)
  escrow : Nat

def supplySum : List (LDenom × Nat) → Nat
  | [] => 0
  | (_, s) :: rest => s + supplySum rest

/-- the native denomination (aISLM) -/
def native : Nat := 0

structure LVInv (st : LVState) : Prop where
  sched : ∀ p ∈ st.denoms, sumList (p.1.periods.map fun q => q.amount native) = p.2
  backed : st.escrow = supplySum st.denoms

inductive LVOp
  | liquidate (a : Account) (s : Nat) (now : Int)      -- by any account; the account model is C09's
  | redeem (i : Nat) (s : Nat) (now : Int)             -- of denomination number i, by any holder
  | transfer                                           -- bank transfers of liquid tokens between holders

def setAt (l : List (LDenom × Nat)) (i : Nat) (v : Option (LDenom × Nat)) : List (LDenom × Nat) :=
  match l, i with
  | [], _ => []
  | _ :: rest, 0 => (match v with | some x => x :: rest | none => rest)
  | x :: rest, i + 1 => x :: setAt rest i v

def lvStep (M : Nat) (st : LVState) : LVOp → LVState
  | .liquidate a s now =>
    match liquidate M a native s now with
    | .ok (_, ld) => { denoms := st.denoms ++ [(ld, s)], escrow := st.escrow + s }   -- escrow s, mint s liquid
    | .error _ => st
  | .redeem i s now =>
    match st.denoms[i]? with
    | none => st
    | some (ld, sup) =>
      if sup < s then st          -- nobody can hold more than the supply
      else match redeem ld native s now with
        | none => st
        | some (left, _) =>
          -- burn s liquid, release s native; the schedule record is updated or deleted
          { denoms := setAt st.denoms i (left.map fun l => (l, sup - s)), escrow := st.escrow - s }
  | .transfer => st

theorem supplySum_append (a b : List (LDenom × Nat)) : supplySum (a ++ b) = supplySum a + supplySum b := by
  induction a with
  | nil => simp [supplySum]
  | cons x xs ih => simp only [List.cons_append, supplySum, ih, Nat.add_assoc]

/-- The new supply is written `(v.map (·.2)).getD 0`: `LVInv.burn` states its hypothesis `hs` with the same term and
    rewrites with both.  A `match v with …` there would have the hypotheses about `v` before it abstracted into its
    motive, and the two terms would not meet. -/
theorem setAt_spec {l : List (LDenom × Nat)} {i : Nat} {ld : LDenom} {sup : Nat} (v : Option (LDenom × Nat))
    (h : l[i]? = some (ld, sup)) :
    supplySum (setAt l i v) + sup = supplySum l + (v.map (·.2)).getD 0 ∧
    ∀ p ∈ setAt l i v, p ∈ l ∨ v = some p := by
  fun_induction setAt l i v with
  | case1 => cases h  -- no entry
  | case2 head rest x hv =>  -- the entry is replaced by `x`
    cases h; subst hv
    exact ⟨by simp only [supplySum, Option.map_some, Option.getD_some]; ac_rfl,
      List.forall_mem_cons.2 ⟨.inr rfl, fun p hp => .inl (List.mem_cons_of_mem _ hp)⟩⟩
  | case3 head rest hv =>  -- the entry is deleted
    cases h; subst hv
    exact ⟨Nat.add_comm .., fun p hp => .inl (List.mem_cons_of_mem _ hp)⟩
  | case4 x rest i ih =>  -- further down the list
    obtain ⟨i1, i2⟩ := ih (List.getElem?_cons_succ ▸ h)
    exact ⟨by simp only [supplySum]; rw [Nat.add_assoc, i1, Nat.add_assoc],
      List.forall_mem_cons.2 ⟨.inl List.mem_cons_self, fun p hp => (i2 p hp).imp_left (List.mem_cons_of_mem _)⟩⟩

theorem LVInv.mint {st : LVState} (hi : LVInv st) {ld : LDenom} {s : Nat}
    (h : sumList (ld.periods.map fun q => q.amount native) = s) :
    LVInv { denoms := st.denoms ++ [(ld, s)], escrow := st.escrow + s } := by
  constructor
  · exact List.forall_mem_append.2 ⟨hi.sched, List.forall_mem_singleton.2 h⟩
  · simp only [supplySum_append, supplySum, hi.backed, Nat.add_zero]

theorem LVInv.burn {st : LVState} (hi : LVInv st) {i : Nat} {ld : LDenom} {sup s : Nat}
    (hget : st.denoms[i]? = some (ld, sup)) (v : Option (LDenom × Nat))
    (hv : ∀ p, v = some p → sumList (p.1.periods.map fun q => q.amount native) = p.2)
    (hs : (v.map (·.2)).getD 0 + s = sup) :
    LVInv { denoms := setAt st.denoms i v, escrow := st.escrow - s } := by
  obtain ⟨q1, q2⟩ := setAt_spec v hget
  refine ⟨fun p hp => (q2 p hp).elim (hi.sched p) (hv p), Nat.sub_eq_of_eq_add ?_⟩
  show st.escrow = supplySum (setAt st.denoms i v) + s
  -- cancel the new supply on both sides of `setAt_spec`'s equation
  rw [hi.backed]
  have key : supplySum (setAt st.denoms i v) + s + (v.map (·.2)).getD 0 = supplySum st.denoms + (v.map (·.2)).getD 0 := by
    rw [Nat.add_assoc, Nat.add_comm s, hs, q1]
  exact (Nat.add_right_cancel key).symm

theorem lvStep_inv (M : Nat) {st : LVState} (hi : LVInv st) (op : LVOp) : LVInv (lvStep M st op) := by
  fun_cases lvStep M st op with
  | case1 a s now a' ld hl => exact hi.mint (totalAmount_eq_sumList .. ▸ liquidate_supply hl) -- liquidate, accepted
  | case6 i s now ld sup hget hle left grant hr => -- redeem, accepted
    obtain ⟨dec, diff, hsub, rfl, -⟩ := redeem_eq_some hr
    have hrem := subtract_remaining hsub
    rw [hi.sched _ (List.mem_of_getElem? hget)] at hrem
    split
    · rename_i h0
      exact hi.burn hget none nofun (by rwa [h0] at hrem)
    · refine hi.burn hget (some _) (fun p hp => ?_) (Nat.sub_add_cancel (Nat.le_of_not_lt hle))
      cases hp
      exact Nat.eq_sub_of_add_eq hrem
  | _ => exact hi -- a refused operation or a transfer leaves the state as it was

def lvRun (M : Nat) (st : LVState) (ops : List LVOp) : LVState := ops.foldl (lvStep M) st

theorem lvRun_inv (M : Nat) (ops : List LVOp) {st : LVState} (hi : LVInv st) : LVInv (lvRun M st ops) :=
  List.foldlRecOn ops _ hi fun _ h op _ => lvStep_inv M h op

/-- **backing for every history**: after any sequence of liquidations and partial or full redeems, every liquid
    denomination's recorded schedule sums to its supply and the module escrow equals the total liquid supply.  Transfers
    of liquid tokens are the identity on this state (it records supplies, not holders); `hM` and `hacc` are not used
    (`lvRun_inv`). -/
theorem lv_inv (M : Nat) (hM : 0 < M) (ops : List LVOp)
    (hacc : ∀ op ∈ ops, ∀ a s now, op = .liquidate a s now → AccValid a) :
    LVInv (lvRun M { denoms := [], escrow := 0 } ops) :=
  lvRun_inv M ops ⟨nofun, rfl⟩

/-- lets `decide` evaluate the test vector below -/
instance decidableMatchOk {P : Account → LDenom → Prop} [∀ a' ld, Decidable (P a' ld)]
    (r : Except LErr (Account × LDenom)) :
    Decidable (match r with | .ok (a', ld) => P a' ld | .error _ => False) := by
  split <;> infer_instance

/-- non-vacuity: a concrete account (100 locked until +500 and +1000, fully vested) liquidates 30 at
    t = 1600: the first liquid period is shortened to keep its absolute time, and the three results add up -/
example :
    let amt (x : Nat) : Amt := fun d => if d = 0 then x else 0
    let a : Account := newAccount 7 1000 (amt 100) [⟨500, amt 40⟩, ⟨500, amt 60⟩] [⟨0, amt 100⟩]
    match liquidate 1 a 0 30 1600 with
    | .ok (a', ld) =>
        ld.start = 1600 ∧ ld.periods.map (·.length) = [400] ∧ totalAmount ld.periods 0 = 30 ∧
        totalAmount a'.lockup 0 = 70 ∧ a'.original 0 = 70
    | .error _ => False := by
  decide +kernel

end Haqq.Liquid
