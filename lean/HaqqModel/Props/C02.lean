/-
  C02 — EVM execution never mints or burns the native coin

  English statement (properties.jsonl):
    Executing an Ethereum transaction - including contract-to-contract value transfers and calls into the staking,
    distribution, ICS-20 and bank precompiles from any caller - leaves the total supply of the native coin unchanged,
    and every account's bank balance after the transaction equals its balance before plus the value it received, minus
    the value, fees and delegated/escrowed amounts it paid. In particular a Cosmos-side debit or credit made by a
    precompile is never overwritten by the EVM's cached view of that account. …

  The per-account equation of the statement (balance before + received − paid) is not stated as such: the theorems give
  the supply and, for every account, bank balance = what the EVM saw.

  Formalisation over the StateDB/keeper model (`Model/StateDB.lean`).  The keeper's `SetBalance` mints or
  burns the difference between the cached and the bank balance, so conservation is a statement about when that
  difference is zero in total:
    * `commit_accounting`: Commit changes the supply by exactly the sum of the balance changes it writes
      (no hypothesis: the mint/burn book-keeping itself is exact).
    * `commit_writes_view`: after Commit the bank balance of every account is what the EVM saw.
    * `sync_spec`: after `SyncBalances` the EVM sees the bank's balance of every account.
    * `evm_tx_conserves`: for every sequence of value transfers, storage / nonce writes, precompile queries
      (Commit) and stateful precompile calls (Commit, a Cosmos message moving coins of *arbitrary* accounts,
      SyncBalances), the final Commit leaves the supply unchanged and every bank balance equal to the EVM's view.
    * `precompiles_sync`: regenerated facts — every coin-moving precompile method has that shape.
    * `unsynced_counterexample` / `synced_same_history`: the defects this property exposed before the repair
      (delegation of a dirty origin's coins by grant; staking rewards paid out during a delegation; rewards paid
      to a withdraw address other than the caller): a bank movement under a cached object without the sync is
      overwritten by the final Commit (coins minted or burned); with the sync it is not.
-/
import HaqqModel.Lemmas.StateDB
import HaqqModel.Generated.Facts

namespace Haqq.SDB

/-- the balance the EVM sees (GetBalance) -/
def view (db : DB) (a : Nat) : Nat :=
  match db.get a with
  | some o => o.bal
  | none => 0

theorem view_of_get {db : DB} {a : Nat} {o : Obj} (h : db.get a = some o) : view db a = o.bal := by
  simp only [view, h]

theorem view_of_none {db : DB} {a : Nat} (h : db.get a = none) : view db a = 0 := by
  simp only [view, h]

theorem load_view (db : DB) (a : Nat) : view (db.load a) = view db := by
  funext b; simp only [view, load_get]

theorem view_push_setObj (db : DB) (e : Entry) (a : Nat) (o' : Obj) :
    view ((db.push e).setObj a o') = upd (view db) a o'.bal := by
  funext b
  simp only [view, get_push_setObj, upd]
  by_cases hb : b = a
  · simp only [hb, if_true]
  · simp only [hb, if_false]

theorem commit_accounting (db : DB) (keys : List Nat) (N : Nat) :
    (commit db (List.range N) keys).k.supply + (sumTo db.k.bal N : Int)
      = db.k.supply + (sumTo (commit db (List.range N) keys).k.bal N : Int) := by
  refine List.foldlRecOn (List.range N) _ (motive := fun k : Keeper =>
    k.supply + (sumTo db.k.bal N : Int) = db.k.supply + (sumTo k.bal N : Int)) rfl ?_
  intro k hk a ha
  split
  · have := commitOne_acct db k a N keys (List.mem_range.1 ha); omega
  · exact hk

/-- the coherence invariant between the cache and the bank -/
structure Good (db : DB) (N : Nat) : Prop where
  /-- an address without an account holds no coins (the bank creates the recipient's account on a transfer, see
      `Keeper.credit`); a hypothesis of `evm_tx_conserves`, not proved of the SDK -/
  wf : ∀ a, db.k.exist a = false → db.k.bal a = 0
  /-- an address the journal has not touched shows its bank balance -/
  coh : ∀ a, db.dirties a = 0 → view db a = db.k.bal a
  dc : ∀ a, 0 < db.dirties a → db.objs a ≠ none
  /-- no self-destructed object (SELFDESTRUCT burns explicitly and is outside `evm_tx_conserves`) -/
  ns : ∀ a o, db.objs a = some o → o.suicided = false
  /-- the universe is `[0, N)` -/
  bd : ∀ a, N ≤ a → db.dirties a = 0

theorem view_uncached {db : DB} {a : Nat} (hwf : ∀ a, db.k.exist a = false → db.k.bal a = 0) (h : db.objs a = none) :
    view db a = db.k.bal a := by
  simp only [view, DB.get, h]
  cases he : db.k.exist a
  · exact (hwf a he).symm
  · rfl

theorem commit_bal (db : DB) (keys : List Nat) (N : Nat) (hg : Good db N) (b : Nat) :
    (commit db (List.range N) keys).k.bal b = (if b < N ∧ 0 < db.dirties b then view db b else db.k.bal b) ∧
    (commit db (List.range N) keys).k.exist b = (if b < N ∧ 0 < db.dirties b then true else db.k.exist b) := by
  obtain ⟨k', _, h⟩ := commit_obs (fun k => (k.bal b, k.exist b)) db keys b (fun k a ha => by
    obtain ⟨hb, he, _⟩ := (commitOne_shape db k a keys).2 b ha.symm
    rw [hb, he])
  replace h := h N
  by_cases hc : b < N ∧ 0 < db.dirties b
  · cases ho : db.objs b with
    | none => exact absurd ho (hg.dc b hc.2)
    | some o =>
      obtain ⟨h1, h2, _⟩ := commitOne_live k' keys ho (hg.ns b o ho)
      rw [if_pos hc, h1, h2] at h
      rw [if_pos hc, if_pos hc, view_of_get (get_of_objs ho)]
      exact Prod.mk.inj h
  · rw [if_neg hc] at h
    rw [if_neg hc, if_neg hc]
    exact Prod.mk.inj h

theorem commit_writes_view (db : DB) (keys : List Nat) (N : Nat) (hg : Good db N) (a : Nat) (ha : a < N) :
    (commit db (List.range N) keys).k.bal a = view db a := by
  rw [(commit_bal db keys N hg a).1]
  split
  · rfl
  · next hc => exact (hg.coh a (Nat.eq_zero_of_not_pos fun hd => hc ⟨ha, hd⟩)).symm

theorem commit_bal_outside (db : DB) (keys : List Nat) (N : Nat) (hg : Good db N) (a : Nat) (ha : N ≤ a) :
    (commit db (List.range N) keys).k.bal a = db.k.bal a ∧ (commit db (List.range N) keys).k.exist a = db.k.exist a := by
  have h := commit_bal db keys N hg a
  rwa [if_neg fun h => Nat.not_lt.2 ha h.1, if_neg fun h => Nat.not_lt.2 ha h.1] at h

/-- the sum of the balances the EVM sees in the universe -/
def T (db : DB) (N : Nat) : Nat := sumTo (view db) N
/-- the sum of the bank balances in the universe -/
def B (db : DB) (N : Nat) : Nat := sumTo db.k.bal N

theorem commit_supply (db : DB) (keys : List Nat) (N : Nat) (hg : Good db N) :
    (commit db (List.range N) keys).k.supply = db.k.supply + (T db N : Int) - (B db N : Int) := by
  have h := commit_accounting db keys N
  rw [sumTo_congr _ _ N (fun i hi => commit_writes_view db keys N hg i hi)] at h
  exact (Int.sub_eq_iff_eq_add.2 h.symm).symm

theorem view_commit (db : DB) (keys : List Nat) (N : Nat) (hg : Good db N) :
    view (commit db (List.range N) keys) = view db := by
  funext a
  obtain ⟨f, hf, e⟩ := commit_objs db (List.range N) keys a
  cases ho : db.objs a with
  | some o =>
    rw [ho] at e
    rw [view_of_get (get_of_objs e), view_of_get (get_of_objs ho), (hf o).1]
  | none =>
    rw [ho] at e
    have hd : ¬ (a < N ∧ 0 < db.dirties a) := fun h => hg.dc a h.2 ho
    obtain ⟨h1, h2⟩ := commit_bal db keys N hg a
    rw [if_neg hd] at h1 h2
    -- nonce / store of an uncached, clean address are not read by `view`
    simp only [view, DB.get, e, ho, h1, h2]
    cases db.k.exist a <;> rfl

/-- a second invariant: which objects are cached.  Kept apart from `Good` because what Commit writes (`commit_bal` …
    `view_commit`) needs `Good` alone; that Commit, SyncBalances and the journalled writes preserve the invariants needs
    both, and `Inv` carries both. -/
structure Good2 (db : DB) (N : Nat) : Prop where
  cb : ∀ a, N ≤ a → db.objs a = none
  /-- a cached object the journal has not touched was loaded from an existing account -/
  ce : ∀ a o, db.objs a = some o → db.dirties a = 0 → db.k.exist a = true

theorem lt_of_cached {db : DB} {N a : Nat} {o : Obj} (hcb : ∀ a, N ≤ a → db.objs a = none) (ho : db.objs a = some o) :
    a < N :=
  Nat.lt_of_not_le fun hle => nomatch (hcb a hle).symm.trans ho

/-- `Good` and `Good2` read address by address: an address without a cached object is clean; a cached object lies
    inside the universe, is live and, while its address is clean, shows the bank balance of an account that exists.
    A proof that an operation preserves `Good ∧ Good2` enters by `good_iff.1`, shows `∀ b, CohAt … b` (`cohAt_load`,
    `cohAt_write`; `cohAt_congr` where nothing moved) and leaves by `good_iff.2`: see `good_mstep`. -/
def CohAt (db : DB) (N a : Nat) : Prop :=
  match db.objs a with
  | none => db.dirties a = 0
  | some o => a < N ∧ o.suicided = false ∧ (db.dirties a = 0 → o.bal = db.k.bal a ∧ db.k.exist a = true)

theorem cohAt_none {db : DB} {N a : Nat} (h : db.objs a = none) : CohAt db N a ↔ db.dirties a = 0 := by
  rw [CohAt, h]

theorem cohAt_some {db : DB} {N a : Nat} {o : Obj} (h : db.objs a = some o) :
    CohAt db N a ↔ a < N ∧ o.suicided = false ∧ (db.dirties a = 0 → o.bal = db.k.bal a ∧ db.k.exist a = true) := by
  rw [CohAt, h]

theorem cohAt_congr {db d : DB} {N a : Nat} (ho : d.objs a = db.objs a) (hd : d.dirties a = db.dirties a)
    (hk : d.k = db.k) : CohAt d N a ↔ CohAt db N a := by
  rw [CohAt, CohAt, ho, hd, hk]

theorem good_iff {db : DB} {N : Nat} :
    Good db N ∧ Good2 db N ↔ (∀ a, db.k.exist a = false → db.k.bal a = 0) ∧ ∀ a, CohAt db N a := by
  -- both ways address by address, by whether an object is cached there
  constructor
  · rintro ⟨hg, h2⟩
    refine ⟨hg.wf, fun a => ?_⟩
    cases ho : db.objs a with
    | none => exact (cohAt_none ho).2 (Nat.eq_zero_of_not_pos fun hd => hg.dc a hd ho)
    | some o =>
      refine (cohAt_some ho).2 ⟨lt_of_cached h2.cb ho, hg.ns a o ho,
        fun hd => ⟨?_, h2.ce a o ho hd⟩⟩
      rw [← hg.coh a hd, view_of_get (get_of_objs ho)]
  · rintro ⟨wf, h⟩
    have cached {a o} (ho : db.objs a = some o) := (cohAt_some ho).1 (h a)
    have outside : ∀ a, N ≤ a → db.objs a = none := fun a ha => by
      cases ho : db.objs a with
      | none => rfl
      | some o => exact absurd (cached ho).1 (Nat.not_lt.2 ha)
    exact ⟨{ wf := wf
             coh := fun a hd => by
               cases ho : db.objs a with
               | none => exact view_uncached wf ho
               | some o => rw [view_of_get (get_of_objs ho)]; exact ((cached ho).2.2 hd).1
             dc := fun a hd hn => by rw [(cohAt_none hn).1 (h a)] at hd; exact Nat.lt_irrefl 0 hd
             ns := fun a o ho => (cached ho).2.1
             bd := fun a ha => (cohAt_none (outside a ha)).1 (h a) },
           { cb := outside
             ce := fun a o ho hd => ((cached ho).2.2 hd).2 }⟩

theorem commit_cached_exist (db : DB) (keys : List Nat) (N : Nat) (hg : Good db N) (h : Good2 db N) (a : Nat) (o : Obj)
    (ho : (commit db (List.range N) keys).objs a = some o) : (commit db (List.range N) keys).k.exist a = true := by
  obtain ⟨f, _, e⟩ := commit_objs db (List.range N) keys a
  obtain ⟨o', ho', _⟩ := Option.map_eq_some_iff.1 (e ▸ ho)
  rw [(commit_bal db keys N hg a).2]
  split
  · rfl
  · next hc => exact h.ce a o' ho' (Nat.eq_zero_of_not_pos fun hd => hc ⟨lt_of_cached h.cb ho', hd⟩)

theorem good_commit (db : DB) (keys : List Nat) (N : Nat) (hg : Good db N) (h2 : Good2 db N) :
    Good (commit db (List.range N) keys) N ∧ Good2 (commit db (List.range N) keys) N := by
  obtain ⟨wf, h⟩ := good_iff.1 ⟨hg, h2⟩
  have hb := commit_bal db keys N hg
  refine good_iff.2 ⟨fun a he => ?_, fun a => ?_⟩
  · obtain ⟨h1, h2⟩ := hb a
    rw [h2] at he
    rw [h1]
    split at he
    · cases he
    · rename_i hc; rw [if_neg hc]; exact wf a he
  · obtain ⟨f, hf, e⟩ := commit_objs db (List.range N) keys a
    cases ho : db.objs a with
    | none => exact (cohAt_none (by rw [e, ho]; rfl)).2 ((cohAt_none ho).1 (h a))
    | some o =>
      obtain ⟨hlt, hs, hc⟩ := (cohAt_some ho).1 (h a)
      refine (cohAt_some (by rw [e, ho]; rfl)).2 ⟨hlt, (hf o).2.trans hs, fun (hd : db.dirties a = 0) => ?_⟩
      -- a clean address is not written
      obtain ⟨h1, h2⟩ := hb a
      rw [if_neg fun hc => Nat.ne_of_gt hc.2 hd] at h1 h2
      rw [h1, h2, (hf o).1]
      exact hc hd

theorem get_coh {db : DB} {N a : Nat} {o : Obj} (h : CohAt db N a) (hget : db.get a = some o) :
    o.suicided = false ∧ (db.dirties a = 0 → o.bal = db.k.bal a ∧ db.k.exist a = true) := by
  rcases get_eq_some hget with ho | ⟨_, he, rfl⟩
  · exact ((cohAt_some ho).1 h).2
  · exact ⟨rfl, fun _ => ⟨rfl, he⟩⟩

theorem cohAt_load {db : DB} {N : Nat} (a : Nat) (ha : a < N) (h : ∀ b, CohAt db N b) (b : Nat) :
    CohAt (db.load a) N b := by
  obtain ⟨hO, hk, hd⟩ := load_fields db a
  by_cases hb : b = a
  · subst hb
    have hOb : (db.load b).objs b = db.get b := by rw [hO, upd_same]
    cases hget : db.get b with
    | none => rw [cohAt_none (hOb.trans hget), hd]; exact (cohAt_none (get_eq_none.1 hget).1).1 (h b)
    | some o => rw [cohAt_some (hOb.trans hget), hd, hk]; exact ⟨ha, get_coh (h b) hget⟩
  · exact (cohAt_congr (by rw [hO, upd_other hb]) (congrFun hd b) hk).2 (h b)

/-- writing a live object for `a` keeps the invariants if the entry marks `a` dirty, or else (CreateAccount over an
    object) if the object found shows the same balance -/
theorem cohAt_write {db : DB} {N a : Nat} {e : Entry} {o' : Obj} (ha : a < N) (hs : o'.suicided = false)
    (he : e.dirtied = some a ∨ e.dirtied = none ∧ ∃ o, db.get a = some o ∧ o'.bal = o.bal)
    (h : ∀ b, CohAt db N b) (b : Nat) : CohAt ((db.push e).setObj a o') N b := by
  have hk := k_push_setObj db e a o'
  have hd := dirties_push_setObj db e a o'
  by_cases hb : b = a
  · subst hb
    refine (cohAt_some (by rw [objs_push_setObj, upd_same])).2 ⟨ha, hs, fun hd0 => ?_⟩
    rcases he with he | ⟨he, o, ho, hbal⟩
    · simp only [hd, he, upd_same] at hd0; cases hd0
    · simp only [hd, he] at hd0
      rw [hk, hbal]; exact (get_coh (h b) ho).2 hd0
  · refine (cohAt_congr (by rw [objs_push_setObj, upd_other hb]) ?_ hk).2 (h b)
    rcases he with he | ⟨he, _⟩
    · simp only [hd, he, upd_other hb]
    · simp only [hd, he]

theorem good_mstep {db : DB} {N : Nat} (hg : Good db N) (h2 : Good2 db N) (op : MOp)
    (ha : ∀ a, op.addr = some a → a < N) (hs : ∀ a, op ≠ .suicide a) :
    Good (mstep db op) N ∧ Good2 (mstep db op) N := by
  obtain ⟨wf, h⟩ := good_iff.1 ⟨hg, h2⟩
  -- every write installs a live object and marks its address dirty; CreateAccount over an object marks nothing and
  -- carries the balance over
  have core : ∀ d, (∀ b, CohAt d N b) → ∀ b, CohAt (mstepCore d op) N b := by
    intro d h
    rcases mstepCore_cases d op with e | ⟨a, e, o', hw, e'⟩ | ⟨e, he⟩
    · rwa [e]
    · rw [e']
      have haN := ha a hw.addr
      cases hw with
      | suicide => exact absurd rfl (hs _)
      | createOver hg => exact cohAt_write haN rfl (.inr ⟨rfl, _, hg, rfl⟩) h
      | create | createNew => exact cohAt_write haN rfl (.inl rfl) h
      | setBal hg | setNonce hg | setState hg => exact cohAt_write haN (get_coh (h _) hg).1 (.inl rfl) h
    · rw [he.frame, DB.push_def, he.clean]; exact h
  refine good_iff.2 ⟨by rw [(mstep_frame db op).k]; exact wf, ?_⟩
  fun_cases mstep db op with
  | case1 a hop => exact core _ (cohAt_load a (ha a hop) h)
  | case2 => exact core db h

theorem view_mstep (db : DB) (op : MOp) (hb : ∀ a v, op ≠ .setBal a v) (hs : ∀ a, op ≠ .suicide a) :
    view (mstep db op) = view db := by
  have core : ∀ d, view (mstepCore d op) = view d := by
    intro d
    rcases mstepCore_cases d op with e | ⟨a, e, o', hw, e'⟩ | ⟨e, he⟩
    · rw [e]
    · rw [e', view_push_setObj]
      refine upd_eq_self ?_
      cases hw with
      | setBal => exact absurd rfl (hb _ _)
      | suicide => exact absurd rfl (hs _)
      | create h | createNew h => exact view_of_none h
      | setNonce h | setState h | createOver h => exact (view_of_get h :)
    · rw [he.frame, DB.push_def]; rfl
  fun_cases mstep db op with
  | case1 a => exact (core _).trans (load_view db a)
  | case2 => exact core db

theorem view_setBal {db : DB} {a : Nat} {o : Obj} (v : Nat) (h : db.get a = some o) :
    view (mstep db (.setBal a v)) = upd (view db) a v := by
  show view (mstepCore (db.load a) (.setBal a v)) = _
  unfold mstepCore
  rw [load_get, h, view_push_setObj, load_view]

theorem ensure_get (db : DB) (a : Nat) : ∃ o, (ensure db a).get a = some o ∧ o.bal = view db a := by
  have ex : ∃ o, (mstepCore (db.load a) (.create a)).get a = some o := by
    unfold mstepCore
    cases h : (db.load a).get a with
    | some o => exact ⟨o, h⟩
    | none => exact ⟨_, by rw [get_push_setObj, if_pos rfl]⟩
  obtain ⟨o, ho⟩ := ex
  exact ⟨o, ho, by rw [← view_of_get ho]; exact congrFun (view_mstep db (.create a) nofun nofun) a⟩

theorem addBalance_eq (db : DB) (a x : Nat) :
    addBalance db a x = if x = 0 then ensure db a else mstep (ensure db a) (.setBal a (view db a + x)) := by
  obtain ⟨o, ho, hb⟩ := ensure_get db a
  simp only [addBalance, ho, hb]

theorem subBalance_eq (db : DB) (a x : Nat) :
    subBalance db a x = if x = 0 then ensure db a else mstep (ensure db a) (.setBal a (view db a - x)) := by
  obtain ⟨o, ho, hb⟩ := ensure_get db a
  simp only [subBalance, ho, hb]

theorem addr_lt {N a : Nat} (ha : a < N) : ∀ b, some a = some b → b < N :=
  fun _ e => Option.some.inj e ▸ ha

/-- getOrNewStateObject and then, unless `x = 0`, SetBalance to `v`: the shape of AddBalance and SubBalance -/
theorem good_setBal {db : DB} {N a : Nat} (hg : Good db N) (h2 : Good2 db N) (ha : a < N) (x v : Nat)
    (hx : x = 0 → v = view db a) :
    let d := if x = 0 then ensure db a else mstep (ensure db a) (.setBal a v)
    Good d N ∧ Good2 d N ∧ d.k = db.k ∧ view d = upd (view db) a v := by
  have he := good_mstep hg h2 (.create a) (addr_lt ha) nofun
  have hve : view (ensure db a) = view db := view_mstep db (.create a) nofun nofun
  have hke : (ensure db a).k = db.k := (mstep_frame db (.create a)).k
  dsimp only
  split
  · rw [hx ‹_›, upd_self]; exact ⟨he.1, he.2, hke, hve⟩
  · obtain ⟨o, ho, _⟩ := ensure_get db a
    have hs := good_mstep he.1 he.2 (.setBal a v) (addr_lt ha) nofun
    exact ⟨hs.1, hs.2, (mstep_frame _ _).k.trans hke, by rw [view_setBal v ho, hve]⟩

theorem good_addBalance {db : DB} {N a : Nat} (x : Nat) (hg : Good db N) (h2 : Good2 db N) (ha : a < N) :
    Good (addBalance db a x) N ∧ Good2 (addBalance db a x) N ∧ (addBalance db a x).k = db.k ∧
    view (addBalance db a x) = upd (view db) a (view db a + x) := by
  rw [addBalance_eq]; exact good_setBal hg h2 ha x _ (fun h => h ▸ rfl)

theorem good_subBalance {db : DB} {N a : Nat} (x : Nat) (hg : Good db N) (h2 : Good2 db N) (ha : a < N) :
    Good (subBalance db a x) N ∧ Good2 (subBalance db a x) N ∧ (subBalance db a x).k = db.k ∧
    view (subBalance db a x) = upd (view db) a (view db a - x) := by
  rw [subBalance_eq]; exact good_setBal hg h2 ha x _ (fun h => h ▸ rfl)

/-- the hypotheses are bare fields, not `Good` / `Good2`: once the Cosmos message has moved bank balances `Good.coh` is
    false (restoring it is the point), and `hex` — what holds after the Commit on entry — stands in for `Good2.ce` -/
theorem sync_spec (db : DB) (N : Nat) (hwf : ∀ a, db.k.exist a = false → db.k.bal a = 0)
    (hdc : ∀ a, 0 < db.dirties a → db.objs a ≠ none) (hns : ∀ a o, db.objs a = some o → o.suicided = false)
    (hbd : ∀ a, N ≤ a → db.dirties a = 0) (hcb : ∀ a, N ≤ a → db.objs a = none)
    (hex : ∀ b o, db.objs b = some o → db.k.exist b = true) :
    (syncBalances db (List.range N)).k = db.k ∧
    (∀ a, view (syncBalances db (List.range N)) a = db.k.bal a) ∧
    Good (syncBalances db (List.range N)) N ∧ Good2 (syncBalances db (List.range N)) N := by
  have hk := (syncBalances_at db N 0).1
  have at_ : ∀ a, view (syncBalances db (List.range N)) a = db.k.bal a ∧ CohAt (syncBalances db (List.range N)) N a := by
    intro a
    obtain ⟨_, hO, hD⟩ := syncBalances_at db N a
    cases ho : db.objs a with
    | none =>
      have hS : (syncBalances db (List.range N)).objs a = none := by rw [hO, ho]; exact ite_self _
      exact ⟨by rw [view_uncached (hk ▸ hwf) hS, hk],
        (cohAt_none hS).2 (by rw [hD ho]; exact Nat.eq_zero_of_not_pos fun hd => hdc a hd ho)⟩
    | some o =>
      -- the object is live and belongs to an account inside the universe, so it is brought in step
      have hS : (syncBalances db (List.range N)).objs a = some { o with bal := db.k.bal a } := by
        rw [hO, ho, if_pos (lt_of_cached hcb ho), Option.map_some, syncObj_live (hns a o ho) (hex a o ho)]
      exact ⟨view_of_get (get_of_objs hS),
        (cohAt_some hS).2 ⟨lt_of_cached hcb ho, hns a o ho, fun _ => by rw [hk]; exact ⟨rfl, hex a o ho⟩⟩⟩
  exact ⟨hk, fun a => (at_ a).1, good_iff.2 ⟨hk ▸ hwf, fun a => (at_ a).2⟩⟩

/-- a Cosmos-side credit / debit of `a` against an account outside the universe (staking pools,
    distribution module, IBC escrow): the supply does not change.  `credit` sets `exist` as the bank's `SendCoins` creates
    the recipient's account (x/bank/keeper/send.go of the SDK); `wf` survives a Cosmos message because of it (`moved_credit`) -/
def Keeper.credit (k : Keeper) (a x : Nat) : Keeper :=
  { k with bal := upd k.bal a (k.bal a + x), exist := upd k.exist a true }
def Keeper.debit (k : Keeper) (a x : Nat) : Keeper :=
  { k with bal := upd k.bal a (k.bal a - x) }

/-- one coin movement of a Cosmos message: (account, credit?, amount); a debit beyond the balance is refused -/
def Keeper.move (k : Keeper) (N : Nat) (m : Nat × Bool × Nat) : Keeper :=
  if m.1 < N then
    (if m.2.1 then k.credit m.1 m.2.2 else if m.2.2 ≤ k.bal m.1 then k.debit m.1 m.2.2 else k)
  else k

/-- what an Ethereum transaction does to balances, as far as `evm_tx_conserves` follows it -/
inductive EOp
  | transfer (f t x : Nat)        -- CALL with value (CanTransfer + Transfer)
  | setNonce (a v : Nat)
  | setState (a key v : Nat)
  | flush                         -- Commit alone (e.g. a precompile query)
  /-- a stateful precompile: Commit on entry, the Cosmos message moves coins of arbitrary accounts (the delegator,
      the account its rewards are paid to, the caller, anybody), then SyncBalances -/
  | precompile (moves : List (Nat × Bool × Nat))

def estep (N : Nat) (keys : List Nat) (db : DB) : EOp → DB
  | .transfer f t x =>
    if f < N ∧ t < N ∧ x ≤ view db f then addBalance (subBalance db f x) t x else db
  | .setNonce a v => if a < N then setNonce db a v else db
  | .setState a key v => if a < N then setState db a key v else db
  | .flush => commit db (List.range N) keys
  | .precompile moves =>
    let db1 := commit db (List.range N) keys
    syncBalances { db1 with k := moves.foldl (fun k m => k.move N m) db1.k } (List.range N)

/-- `Good`, `Good2` and the conserved quantity supply + (what the EVM sees) − (what the bank holds) = `s0` -/
def Inv (db : DB) (N : Nat) (s0 : Int) : Prop :=
  Good db N ∧ Good2 db N ∧ db.k.supply + (T db N : Int) - (B db N : Int) = s0

theorem inv_synced {d : DB} {N : Nat} (s0 : Int) (hview : ∀ a, a < N → d.k.bal a = view d a) :
    d.k.supply + (T d N : Int) - (B d N : Int) = s0 ↔ d.k.supply = s0 := by
  rw [show B d N = T d N from sumTo_congr _ _ N hview, Int.add_sub_cancel]

theorem flush_inv (N : Nat) (keys : List Nat) (s0 : Int) (db : DB) (h : Inv db N s0) :
    Inv (commit db (List.range N) keys) N s0 ∧
    (∀ a, a < N → (commit db (List.range N) keys).k.bal a = view (commit db (List.range N) keys) a) := by
  obtain ⟨hg, hg2, hs⟩ := h
  have hbv := fun a ha => (commit_writes_view db keys N hg a ha).trans (congrFun (view_commit db keys N hg).symm a)
  obtain ⟨g, g2⟩ := good_commit db keys N hg hg2
  exact ⟨⟨g, g2, (inv_synced s0 hbv).2 ((commit_supply db keys N hg).trans hs)⟩, hbv⟩

/-- all that `estep_inv` uses of a Cosmos message -/
structure Moved (k k' : Keeper) : Prop where
  supply : k'.supply = k.supply
  exist : ∀ a, k.exist a = true → k'.exist a = true
  wf : (∀ a, k.exist a = false → k.bal a = 0) → ∀ a, k'.exist a = false → k'.bal a = 0

theorem Moved.refl (k : Keeper) : Moved k k := ⟨rfl, fun _ h => h, id⟩

theorem Moved.trans {k k' k'' : Keeper} (h1 : Moved k k') (h2 : Moved k' k'') : Moved k k'' :=
  ⟨h2.supply.trans h1.supply, fun a h => h2.exist a (h1.exist a h), fun h => h2.wf (h1.wf h)⟩

theorem moved_credit (k : Keeper) (a x : Nat) : Moved k (k.credit a x) := by
  refine ⟨rfl, fun b hb => ?_, fun hwf b (hb : upd k.exist a true b = false) => ?_⟩
  · by_cases hba : b = a
    · exact hba ▸ upd_same _ _ _
    · exact (upd_other hba).trans hb
  · by_cases hba : b = a
    · rw [hba, upd_same] at hb; cases hb
    · rw [upd_other hba] at hb; exact (upd_other hba).trans (hwf b hb)

theorem moved_debit (k : Keeper) (a x : Nat) : Moved k (k.debit a x) := by
  refine ⟨rfl, fun _ hb => hb, fun hwf b (hb : k.exist b = false) => ?_⟩
  simp only [Keeper.debit, upd]
  split
  · rw [hwf a (‹b = a› ▸ hb), Nat.zero_sub]
  · exact hwf b hb

theorem Moved.ite {k x y : Keeper} {c : Prop} [Decidable c] (hx : Moved k x) (hy : Moved k y) :
    Moved k (if c then x else y) := by
  split <;> assumption

theorem moved_move (k : Keeper) (N : Nat) (m : Nat × Bool × Nat) : Moved k (k.move N m) :=
  .ite (.ite (moved_credit ..) (.ite (moved_debit ..) (.refl k))) (.refl k)

theorem moved_moves (N : Nat) (moves : List (Nat × Bool × Nat)) (k : Keeper) :
    Moved k (moves.foldl (fun k m => k.move N m) k) :=
  List.foldlRecOn moves _ (motive := Moved k) (.refl k) fun k' h m _ => h.trans (moved_move k' N m)

theorem inv_of_write {db d : DB} {N : Nat} {s0 : Int} (h : Inv db N s0) (hg : Good d N) (h2 : Good2 d N) (hk : d.k = db.k)
    (hT : sumTo (view d) N = sumTo (view db) N) : Inv d N s0 :=
  ⟨hg, h2, by simp only [T, B, hk, hT]; exact h.2.2⟩

theorem inv_mstep {db : DB} {N : Nat} {s0 : Int} (h : Inv db N s0) (op : MOp) (ha : ∀ a, op.addr = some a → a < N)
    (hb : ∀ a v, op ≠ .setBal a v) (hs : ∀ a, op ≠ .suicide a) : Inv (mstep db op) N s0 :=
  have g := good_mstep h.1 h.2.1 op ha hs
  inv_of_write h g.1 g.2 (mstep_frame db op).k (by rw [view_mstep db op hb hs])

theorem estep_inv (N : Nat) (keys : List Nat) (s0 : Int) (db : DB) (op : EOp) (h : Inv db N s0) :
    Inv (estep N keys db op) N s0 := by
  fun_cases estep N keys db op with
  | case2 | case4 | case6 => exact h  -- a transfer or write that is refused
  | case1 f t x hc =>  -- a transfer within the universe that the sender can pay
    obtain ⟨g1, g1', k1, v1⟩ := good_subBalance x h.1 h.2.1 hc.1
    obtain ⟨g2, g2', k2, v2⟩ := good_addBalance x g1 g1' hc.2.1
    refine inv_of_write h g2 g2' (k2.trans k1) ?_
    rw [v2, v1]
    exact sumTo_move (view db) f t x N hc.1 hc.2.1 hc.2.2
  | case3 a v ha | case5 a key v ha =>  -- getOrNewStateObject, then the write
    exact inv_mstep (inv_mstep h (.create a) (addr_lt ha) nofun nofun) _ (addr_lt ha) (fun _ _ => nofun) (fun _ => nofun)
  | case7 => exact (flush_inv N keys s0 db h).1  -- flush
  | case8 moves =>  -- precompile
    obtain ⟨⟨g1, g21, s1⟩, hbv⟩ := flush_inv N keys s0 db h
    obtain ⟨ms, me, mw⟩ := moved_moves N moves (commit db (List.range N) keys).k
    obtain ⟨hk, hview, gS, g2S⟩ := sync_spec
      { commit db (List.range N) keys with k := moves.foldl (fun k m => k.move N m) (commit db (List.range N) keys).k } N
      (mw g1.wf) g1.dc g1.ns g1.bd g21.cb (fun b o hb => me b (commit_cached_exist db keys N h.1 h.2.1 b o hb))
    -- after the flush the bank and the EVM agree, and they do again after the sync: the supply alone is left
    refine ⟨gS, g2S, (inv_synced s0 fun a _ => ((hview a).trans (congrFun (congrArg Keeper.bal hk).symm a)).symm).2 ?_⟩
    exact (congrArg Keeper.supply hk).trans (ms.trans ((inv_synced s0 hbv).1 s1))

theorem run_inv (N : Nat) (keys : List Nat) (s0 : Int) (ops : List EOp) : ∀ (db : DB), Inv db N s0 →
    Inv (ops.foldl (estep N keys) db) N s0 :=
  fun _ h => List.foldlRecOn ops _ (motive := fun d => Inv d N s0) h fun db hdb op _ => estep_inv N keys s0 db op hdb

theorem inv_new (k0 : Keeper) (N : Nat) (hwf : ∀ a, k0.exist a = false → k0.bal a = 0) :
    Inv (DB.new k0) N k0.supply := by
  obtain ⟨hg, h2⟩ := good_iff.2 ⟨hwf, fun _ => (cohAt_none (db := DB.new k0) (N := N) rfl).2 rfl⟩
  exact ⟨hg, h2, (inv_synced _ fun a _ => (hg.coh a rfl).symm).2 rfl⟩

/-- **C02**: for every history of the five operations of `EOp` — value transfers, storage and nonce writes, precompile
    queries, stateful precompile calls whose Cosmos message moves coins of arbitrary accounts, in any order and
    number; no snapshot / revert, CreateAccount or self-destruct — the Commit at its end leaves the total supply where
    it was and makes every bank balance equal to the balance the EVM reported. -/
theorem evm_tx_conserves (N : Nat) (keys : List Nat) (k0 : Keeper)
    (hwf : ∀ a, k0.exist a = false → k0.bal a = 0) (ops : List EOp) :
    let db := ops.foldl (estep N keys) (DB.new k0)
    let k' := (commit db (List.range N) keys).k
    k'.supply = k0.supply ∧ ∀ a, a < N → k'.bal a = view db a := by
  intro db k'
  have hi : Inv db N k0.supply := run_inv N keys k0.supply ops _ (inv_new k0 N hwf)
  obtain ⟨⟨_, _, s1⟩, hbv⟩ := flush_inv N keys k0.supply db hi
  exact ⟨(inv_synced _ hbv).1 s1, commit_writes_view db keys N hi.1⟩

/-- the tie to the source (regenerated facts): each transaction method of the staking, distribution and ICS-20
    precompiles brings the cached balances in step with `StateDB.SyncBalances` (no single-account AddBalance /
    SubBalance mirror is left), every stateful precompile's `Run` commits on entry, and `SyncBalances` has the
    modelled shape, i.e. every coin-moving precompile method follows the `precompile` shape of `EOp` -/
theorem precompiles_sync :
    Facts.precompileBalanceSync.all (fun p => p.2 == "sync") = true ∧ Facts.precompileBalanceSync.length = 9 ∧
    Facts.precompileRunCommits.all (fun p => p.2 == "yes") = true ∧ Facts.statedbSyncBalancesShape = true := by
  decide +kernel

def kc : Keeper := { exist := fun a => a < 2, bal := fun a => if a = 0 then 2000000 else 0, nonce := fun _ => 0,
                     store := fun _ _ => 0, supply := 0 }

/-- non-vacuity: a concrete transaction meets the hypotheses and moves coins -/
example : let db := [EOp.transfer 0 1 777, .setState 1 0 5, .precompile [(0, false, 100), (1, true, 40), (3, true, 9)], .transfer 1 2 17].foldl (estep 4 [0, 1]) (DB.new kc)
    (commit db (List.range 4) [0, 1]).k.supply = 0 ∧ (commit db (List.range 4) [0, 1]).k.bal 1 = view db 1 :=
  let h := evm_tx_conserves 4 [0, 1] kc (by intro a h; simp [kc] at h ⊢; omega)
    [EOp.transfer 0 1 777, .setState 1 0 5, .precompile [(0, false, 100), (1, true, 40), (3, true, 9)], .transfer 1 2 17]
  ⟨h.1, h.2 1 (by omega)⟩

/-- the defect this property exposed in the code before the repair (fixed: see known_findings.json): the origin
    (0) sends value 777 to contract 1 — its object is dirty from then on — and a precompile's Cosmos message debits
    the origin's bank balance by 1 000 000 *without* the StateDB being brought back in step.  The final Commit writes
    the origin's stale cached balance back over the bank balance: 1 000 000 coins are minted. -/
theorem unsynced_counterexample :
    let db0 := DB.new kc
    let db1 := addBalance (subBalance db0 0 777) 1 777          -- value transfer of the call
    let db2 := commit db1 [0, 1] []                              -- precompile entry
    let db3 : DB := { db2 with k := db2.k.debit 0 1000000 }      -- the Cosmos message debits the origin; no SyncBalances
    let db4 := commit db3 [0, 1] []                              -- end of the transaction
    db4.k.supply = 1000000 ∧ db4.k.bal 0 = 1999223 ∧ db3.k.bal 0 = 999223 := by
  decide

/-- … and with SyncBalances after the message the same history conserves the supply -/
theorem synced_same_history :
    let db0 := DB.new kc
    let db1 := addBalance (subBalance db0 0 777) 1 777
    let db2 := commit db1 [0, 1] []
    let db3 := syncBalances { db2 with k := db2.k.debit 0 1000000 } [0, 1]
    let db4 := commit db3 [0, 1] []
    db4.k.supply = 0 ∧ db4.k.bal 0 = 999223 := by
  decide

end Haqq.SDB
