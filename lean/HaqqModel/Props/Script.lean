/-
  The reading of puppet scripts (Model/Script.lean) — the reference against which every real puppet transaction of the C02
  and C05 checks is judged, computed in Go by harness/props/puppet.go and, line by line, by the Lean driver
  (Driver/Script.lean); the two are compared on every `ptx` line of every run.  Proved here: the reading conserves coins
  for every script, and a reverted frame contributes nothing — so when a real transaction agrees with the reading it has
  neither minted nor burned (C02) and its reverted frames have left no trace in the quantities read (C05).
-/
import HaqqModel.Model.Script

namespace Haqq.Script

theorem payE_total (r : Ref) : r.payE.total = r.total := by
  unfold Ref.payE; split <;> simp only [Ref.total]; lia
theorem payP_total (r : Ref) : r.payP.total = r.total := by
  unfold Ref.payP; split <;> simp only [Ref.total]; lia

-- every token moves its amount from one summand of `total` to another
mutual
  theorem evalTok_total (r : Ref) : (t : Tok) → (evalTok r t).total = r.total
    | .sstore _ _ | .log | .touchModule => rfl
    | .pay amt => by simp only [evalTok, Ref.total]; lia
    | .delegE amt | .undelegE amt => by rw [evalTok, payE_total]; simp only [Ref.total]; lia
    | .delegP amt => by rw [evalTok, payP_total]; simp only [Ref.total]; lia
    | .claimP => payP_total r
    | .frame reverts body => by
      rw [evalTok]
      split
      · rfl
      · exact evalToks_total r body
  theorem evalToks_total (r : Ref) : (ts : List Tok) → (evalToks r ts).total = r.total
    | [] => rfl
    | t :: ts => by rw [evalToks, evalToks_total (evalTok r t) ts, evalTok_total r t]
end

/-- **the reading of every script conserves coins**: whatever the script — any nesting of frames, reverting or not, any
    mix of payments, delegations, undelegations and reward claims — the changes it prescribes to the origin, the contract,
    the payee, their delegations, the unbonding pool and the distribution account sum to zero -/
theorem reading_conserves (value : Nat) (pE pP : Option Nat) (slots : Nat → Nat) (ts : List Tok) :
    (evalToks (Ref.start value pE pP slots) ts).total = 0 := by
  rw [evalToks_total]
  simp only [Ref.start, Ref.total]; lia

theorem reverted_frame_is_noop (r : Ref) (body : List Tok) : evalTok r (.frame true body) = r := by
  simp [evalTok]

/-- non-vacuity: value 250, rewards 70 pending for the contract: a store, a delegation of the origin's coins, a claim
    and a payment; a reverted frame in between changes nothing -/
example :
    let r := evalToks (Ref.start 250 none (some 70) (fun _ => 0))
      [.sstore 0 2, .delegE 3000, .frame true [.pay 5, .delegP 9], .claimP, .pay 9]
    r.dE = -3250 ∧ r.dP = 250 + 70 - 9 ∧ r.dX = 9 ∧ r.bondE = 3000 ∧ r.bondP = 0 ∧ r.distr = -70 ∧ r.total = 0 := by
  decide

end Haqq.Script
