/-
  C19 — Exported genesis re-imports to the same state.

  English statement (properties.jsonl):
    Exporting the application state at any height and initialising a fresh chain from that export yields the same
    module state: exporting again gives an identical document, and the Haqq modules … answer every query
    identically.  No piece of consensus-relevant module state is dropped or invented by the export/import cycle.

  Formalisation.  A module's state is a family of fields; `export` copies the fields the module's ExportGenesis
  fills, `init` writes the fields its InitGenesis reads and leaves the others at the fresh chain's value.  Which
  fields are filled and read is *regenerated from the source on every run* (`Facts.genesisFieldFacts`).
    * `roundtrip`: when every field is exported and imported, `init (export s) = s` and a second export is
      identical to the first — for every state;
    * `dropped_field_counterexample`: a field that is exported but not imported (the coinomics PrevBlockTs defect,
      repaired by 2509d2f) makes the second export differ;
    * `all_fields_roundtrip`: over the regenerated facts, every field of every Haqq module is both;
    * `epochs_keeps_start_height`: the one field whose import *transformed* the value (the epochs start height,
      repaired by 81aeba2) is now copied for running epochs — the model of that import (`epochInit`) is proved to
      be the identity exactly under the regenerated fact.
  Field-by-field semantics inside a field (a list of accounts, token pairs …) are covered by the differential
  run: export → InitChain on a fresh application → export, compared path by path, plus keeper reads on both.
-/
import HaqqModel.Generated.Facts

namespace Haqq.C19

/-- a module: fields are numbered, values are naturals (any encodable value) -/
structure Module where
  exported : Nat → Bool
  imported : Nat → Bool
  fresh : Nat → Nat            -- what a freshly initialised chain holds when the import does not write the field

def Module.export (m : Module) (s : Nat → Nat) : Nat → Nat := fun f => if m.exported f then s f else 0
def Module.init (m : Module) (g : Nat → Nat) : Nat → Nat := fun f => if m.imported f then g f else m.fresh f

theorem roundtrip (m : Module) (h : ∀ f, m.exported f = true ∧ m.imported f = true) (s : Nat → Nat) :
    m.init (m.export s) = s ∧ m.export (m.init (m.export s)) = m.export s := by
  have h1 : m.init (m.export s) = s := by
    funext f
    simp [Module.init, Module.export, (h f).1, (h f).2]
  exact ⟨h1, by rw [h1]⟩

/-- coinomics PrevBlockTs before the repair: exported 1704067238000, a fresh chain holds 0 -/
theorem dropped_field_counterexample :
    let m : Module := { exported := fun _ => true, imported := fun f => f != 1, fresh := fun _ => 0 }
    let s : Nat → Nat := fun f => if f = 1 then 1704067238000 else 7
    m.export (m.init (m.export s)) 1 = 0 ∧ m.export s 1 = 1704067238000 := by
  simp [Module.export, Module.init]

theorem all_fields_roundtrip :
    Facts.genesisFieldFacts.all (fun p => p.2 == "exported+imported") = true ∧ Facts.genesisFieldFacts.length = 16 := by
  decide +kernel

theorem coinomics_prevts_imported : Facts.coinomicsInitImportsPrevTS = true := rfl

/-- the epochs import of one epoch's start height: `keeps` = the regenerated fact -/
def epochInit (keeps : Bool) (countingStarted : Bool) (exportedHeight importHeight : Nat) : Nat :=
  if keeps then (if countingStarted then exportedHeight else importHeight) else importHeight

theorem epochs_keeps_start_height (exportedHeight importHeight : Nat) :
    epochInit Facts.epochsInitKeepsStartHeight true exportedHeight importHeight = exportedHeight := by
  have : Facts.epochsInitKeepsStartHeight = true := rfl
  simp [epochInit, this]

/-- before the repair a running epoch's start height was replaced by the import height -/
theorem epochs_height_counterexample : epochInit false true 2 8 = 8 := by decide

/-! ### inside `evm.Accounts`: which accounts the export walks

An account of the auth module is plain, an Ethereum account or a vesting account; the last two carry a code hash (both
implement `EthAccountI`).  A contract can sit under a vesting account: an address is converted into a vesting account
and a CREATE lands on it afterwards, or a liquid token is redeemed to a contract.  The EVM export must walk every
account that can carry code; the import writes code and storage for exactly the accounts listed. -/

inductive Kind | plain | eth | vesting
  deriving Repr, DecidableEq

structure Acct where
  kind : Kind
  code : Nat        -- 0 = no code
  storage : Nat     -- an opaque digest of the contract's storage
  deriving Repr, DecidableEq

/-- `ifaceAssert` = the export asserts the interface (every account kind with a code hash); otherwise the concrete
    Ethereum account type -/
def walked (ifaceAssert : Bool) (a : Acct) : Bool :=
  match a.kind with
  | .plain => false
  | .eth => true
  | .vesting => ifaceAssert

/-- the EVM state the importing chain ends up with for one account: code and storage when the export listed it, nothing
    otherwise (the auth section still recreates the account itself, code hash included) -/
def evmRoundTrip (ifaceAssert : Bool) (a : Acct) : Nat × Nat := if walked ifaceAssert a then (a.code, a.storage) else (0, 0)

/-- plain accounts carry no code: `SetAccount` writes a code hash only into an `EthAccountI` (x/evm/keeper/statedb.go);
    that no storage is written under such an address is assumed -/
def WellFormed (a : Acct) : Prop := a.kind = .plain → a.code = 0 ∧ a.storage = 0

/-- **no contract is dropped**: with the interface assertion the export / import cycle restores code and storage of every
    account, whatever kind of account the contract sits under -/
theorem evm_accounts_roundtrip (a : Acct) (h : WellFormed a) : evmRoundTrip true a = (a.code, a.storage) := by
  obtain ⟨kind, code, storage⟩ := a
  cases kind with
  | plain => obtain ⟨rfl, rfl⟩ := h rfl; rfl   -- not walked, and holds nothing
  | eth | vesting => rfl                       -- walked

/-- asserting the concrete type drops a contract that sits under a vesting account -/
theorem concrete_assertion_counterexample :
    evmRoundTrip false { kind := .vesting, code := 77, storage := 19 } = (0, 0) ∧
    evmRoundTrip true { kind := .vesting, code := 77, storage := 19 } = (77, 19) := by decide

theorem evm_export_walks_every_coded_account : Facts.evmExportAccountAssertion = "haqqtypes.EthAccountI" := rfl

end Haqq.C19
