/-
  C14 — Slashing and deposit burns go to the community pool, not to zero.

  English statement (properties.jsonl):
    Coins that the staking and governance modules would destroy (slashed stake, burned proposal
    deposits) are never removed from circulation: the total supply is unchanged by such an event and
    the community pool grows by exactly the amount, with the distribution module account holding the
    matching coins.  Burns by every other module keep their normal meaning.

  Formalisation: the ledger theorems (`burn_redirect` … `burn_sum_supply`) are for one denomination; `fundPool_exact` and
  `fundPool_keeps_fraction` treat a burn of several denominations at once and the pool's decimal fraction.  Module
  accounts are numbered, `distr` is the distribution module account.  The set of redirected modules, the body of the redirected
  case, the fall-through, the module-account permissions and the keepers that are wired to the overriding
  keeper are regenerated from x/bank/keeper/keeper.go and app/app.go on every run.
-/
import HaqqModel.Model.Ledger
import HaqqModel.Generated.Facts

namespace Haqq.Ledger

theorem burnCoins_redirected_ok {redirected burner : Nat → Bool} {s s' : State} {m amt : Nat}
    (hr : redirected m = true) (h : burnCoins redirected burner s m amt = .ok s') :
    amt ≤ s.bal m ∧
    s' = { s with bal := upd (upd s.bal m (s.bal m - amt)) distr (upd s.bal m (s.bal m - amt) distr + amt),
                  communityPool := s.communityPool + amt } := by
  rw [burnCoins, if_pos hr, ite_error_eq_ok] at h
  exact ⟨Nat.le_of_not_lt h.1, (Except.ok.inj h.2).symm⟩

theorem burnCoins_other_ok {redirected burner : Nat → Bool} {s s' : State} {m amt : Nat}
    (hr : redirected m = false) (h : burnCoins redirected burner s m amt = .ok s') :
    burner m = true ∧ amt ≤ s.bal m ∧
    s' = { s with bal := upd s.bal m (s.bal m - amt), supply := s.supply - amt } := by
  rw [burnCoins, if_neg (Bool.eq_false_iff.1 hr), ite_error_eq_ok, ite_error_eq_ok, Bool.not_eq_true',
    Bool.not_eq_false] at h
  exact ⟨h.1, Nat.le_of_not_lt h.2.1, (Except.ok.inj h.2.2).symm⟩

/-- a burn by a redirected module: supply unchanged, community pool +amt, distribution account +amt,
    the module −amt, nobody else touched -/
theorem burn_redirect (redirected burner : Nat → Bool) (s s' : State) (m amt : Nat)
    (hr : redirected m = true) (hm : m ≠ distr) (h : burnCoins redirected burner s m amt = .ok s') :
    s'.supply = s.supply ∧ s'.communityPool = s.communityPool + amt ∧
    s'.bal distr = s.bal distr + amt ∧ s'.bal m + amt = s.bal m ∧
    ∀ x, x ≠ m → x ≠ distr → s'.bal x = s.bal x := by
  obtain ⟨hle, rfl⟩ := burnCoins_redirected_ok hr h
  refine ⟨rfl, rfl, ?_, ?_, fun x h1 h2 => ?_⟩
  · simp only [upd_same, upd_other (Ne.symm hm)]
  · simp only [upd_other hm, upd_same]; exact Nat.sub_add_cancel hle
  · simp only [upd_other h2, upd_other h1]

/-- a burn by any other module keeps its meaning: the supply drops by the amount (first conjunct: `Nat` subtraction with
    its truncation made explicit, since nothing in `State` ties `supply` to `bal`), the community pool and the
    distribution account are untouched -/
theorem burn_other (redirected burner : Nat → Bool) (s s' : State) (m amt : Nat)
    (hr : redirected m = false) (hm : m ≠ distr) (h : burnCoins redirected burner s m amt = .ok s') :
    s'.supply + amt = s.supply + (if s.supply < amt then amt - s.supply else 0) ∧
    s'.communityPool = s.communityPool ∧ s'.bal distr = s.bal distr ∧ s'.bal m + amt = s.bal m ∧
    burner m = true := by
  obtain ⟨hb, hle, rfl⟩ := burnCoins_other_ok hr h
  refine ⟨?_, rfl, upd_other (Ne.symm hm), ?_, hb⟩
  · show s.supply - amt + amt = s.supply + if s.supply < amt then amt - s.supply else 0
    split
    · next hlt => rw [Nat.sub_eq_zero_of_le (Nat.le_of_lt hlt), Nat.zero_add, Nat.add_sub_of_le (Nat.le_of_lt hlt)]
    · next hge => rw [Nat.sub_add_cancel (Nat.le_of_not_lt hge), Nat.add_zero]
  · simp only [upd_same]; exact Nat.sub_add_cancel hle

/-- distribution's own accounting invariant (module account ≥ community pool + outstanding rewards) is
    preserved by a redirected burn: both sides grow by the same amount -/
theorem distr_invariant_preserved (redirected burner : Nat → Bool) (s s' : State) (m amt outstanding : Nat)
    (hr : redirected m = true) (hm : m ≠ distr) (h : burnCoins redirected burner s m amt = .ok s')
    (hinv : s.communityPool + outstanding ≤ s.bal distr) :
    s'.communityPool + outstanding ≤ s'.bal distr := by
  obtain ⟨_, h2, h3, _, _⟩ := burn_redirect redirected burner s s' m amt hr hm h
  rw [h2, h3, Nat.add_right_comm]
  exact Nat.add_le_add_right hinv amt

/-- Σ balances = supply is preserved by both kinds of burn; `N` bounds the module accounts, `rest` is what all other accounts
    hold -/
theorem burn_sum_supply (redirected burner : Nat → Bool) (s s' : State) (m amt N : Nat)
    (hm : m ≠ distr) (hmN : m < N) (hdN : distr < N)
    (h : burnCoins redirected burner s m amt = .ok s') (rest : Nat)
    (hsum : sumTo s.bal N + rest = s.supply) : sumTo s'.bal N + rest = s'.supply := by
  cases hr : redirected m
  · obtain ⟨_, hle, rfl⟩ := burnCoins_other_ok hr h
    have key : sumTo (upd s.bal m (s.bal m - amt)) N + rest + amt = s.supply := by
      rw [Nat.add_right_comm, sumTo_upd_sub s.bal m amt N hmN hle, hsum]
    exact Nat.eq_sub_of_add_eq key
  · obtain ⟨hle, rfl⟩ := burnCoins_redirected_ok hr h
    exact (congrArg (· + rest) (sumTo_move s.bal m distr amt N hmN hdN hle)).trans hsum

/-- exactly gov, the bonded pool and the not-bonded pool are redirected; the redirected case moves the
    coins to the distribution account and books them into the community pool; everything else falls
    through to the SDK burn -/
theorem redirect_set :
    Facts.bankBurnRedirectedModules = ["govtypes.ModuleName", "stakingtypes.BondedPoolName", "stakingtypes.NotBondedPoolName"] ∧
    Facts.bankBurnRedirectMovesAndBooks = true ∧ Facts.bankBurnOthersFallThrough = true := ⟨rfl, rfl, rfl⟩

/-- the staking and governance keepers — and nobody else — hold the overriding bank keeper -/
theorem override_wiring : Facts.bankOverrideUsers = ["govkeeper.NewKeeper", "stakingkeeper.NewKeeper"] := rfl

def lookupPerm (l : List (String × String)) (k : String) : Option String :=
  match l with
  | [] => none
  | (a, b) :: rest => if a == k then some b else lookupPerm rest k

/-- what `maccPerms` gives the four accounts: the three redirected ones keep the Burner permission — which the override
    never consults for them (its redirected case is a module-to-module send; `burnCoins` reads `burner` on the
    fall-through only) — and the distribution account is a plain module account -/
theorem redirected_accounts_perms :
    lookupPerm Facts.maccPerms "stakingtypes.BondedPoolName" = some "Burner,Staking" ∧
    lookupPerm Facts.maccPerms "stakingtypes.NotBondedPoolName" = some "Burner,Staking" ∧
    lookupPerm Facts.maccPerms "govtypes.ModuleName" = some "Burner" ∧
    lookupPerm Facts.maccPerms "distrtypes.ModuleName" = some "nil" := by decide +kernel

/-- non-vacuity: a redirected burn and an ordinary one on a concrete ledger -/
example :
    let s : State := { bal := fun x => if x = 1 then 100 else if x = 3 then 40 else 0, supply := 1000, communityPool := 7 }
    let red : Nat → Bool := fun m => m == 1 || m == 2
    let bur : Nat → Bool := fun m => m == 1 || m == 2 || m == 3
    (match burnCoins red bur s 1 30 with | .ok s' => s'.supply = 1000 ∧ s'.communityPool = 37 ∧ s'.bal distr = 30 ∧ s'.bal 1 = 70 | _ => False) ∧
    (match burnCoins red bur s 3 30 with | .ok s' => s'.supply = 970 ∧ s'.communityPool = 7 ∧ s'.bal 3 = 10 | _ => False) ∧
    (match burnCoins red bur s 4 1 with | .error .noPermission => True | _ => False) :=
  ⟨⟨rfl, rfl, rfl, rfl⟩, ⟨rfl, rfl, rfl⟩, trivial⟩

/- A redirected burn of several denominations at once:
`BurnCoins(gov | bonded | not-bonded, coins)` with more than one coin: all coins move to the distribution account in one
send, and the stored fee pool is read once, every coin added to its community pool, and written once.  Denominations are
numbered; `pool d` is the community pool's amount of denomination d. -/

/-- the fee pool after the coins were added to the pool read at the start: `feePool.CommunityPool.Add(coins...)`, one call
    in the code, unfolded coin by coin -/
def fundPool (pool : Nat → Nat) : List (Nat × Nat) → Nat → Nat
  | [] => pool
  | (d, a) :: rest => fundPool (upd pool d (pool d + a)) rest

/-- what a coin list holds of one denomination -/
def amountOf (coins : List (Nat × Nat)) (d : Nat) : Nat := (coins.filter (·.1 == d)).foldl (fun s c => s + c.2) 0

theorem amountOf_eq_sum (coins : List (Nat × Nat)) (d : Nat) :
    amountOf coins d = ((coins.filter (·.1 == d)).map (·.2)).sum := by
  rw [amountOf, List.sum_eq_foldl, List.foldl_map]

theorem amountOf_cons (c : Nat × Nat) (rest : List (Nat × Nat)) (d : Nat) :
    amountOf (c :: rest) d = (if d = c.1 then c.2 else 0) + amountOf rest d := by
  rw [amountOf_eq_sum, amountOf_eq_sum, List.filter_cons]
  by_cases h : d = c.1
  · rw [if_pos h, if_pos (beq_iff_eq.2 h.symm), List.map_cons, List.sum_cons]
  · rw [if_neg h, if_neg (fun e => h (beq_iff_eq.1 e).symm), Nat.zero_add]

/-- **the community pool grows by exactly the burned amount, per denomination**, for every coin list — sorted or not,
    with repeated denominations or not -/
theorem fundPool_exact (coins : List (Nat × Nat)) : ∀ (pool : Nat → Nat) (d : Nat),
    fundPool pool coins d = pool d + amountOf coins d := by
  intro pool d
  fun_induction fundPool pool coins with
  | case1 => rfl
  | case2 pool d0 a rest ih =>
    rw [ih, amountOf_cons, upd_apply, ← Nat.add_assoc]
    split
    · next h => rw [h]
    · rfl

/-- a counterfactual body of the override (the seeded change `C14-burn-redirect-feepool-by-value`), the shape that loses
    updates: every coin's result is computed from the pool read at the start and stored over the
    previous one — only the last coin reaches the pool -/
def fundPoolLostUpdate (pool : Nat → Nat) : List (Nat × Nat) → Nat → Nat
  | [] => pool
  | [(d, a)] => upd pool d (pool d + a)
  | _ :: rest => fundPoolLostUpdate pool rest

theorem lost_update_counterexample :
    fundPoolLostUpdate (fun _ => 0) [(0, 1000000), (1, 777)] 0 = 0 ∧ fundPool (fun _ => 0) [(0, 1000000), (1, 777)] 0 = 1000000 ∧
    fundPool (fun _ => 0) [(0, 1000000), (1, 777)] 1 = 777 := by
  decide

/- The community pool holds decimal amounts; below `pool d` is read in units of 10⁻¹⁸ and a redirected burn of `a` whole
units adds `a · 10¹⁸` — the fraction the pool held (reward remainders) stays. -/

def dec18p : Nat := 10 ^ 18

/-- whole coins as pool units -/
def scale (coins : List (Nat × Nat)) : List (Nat × Nat) := coins.map fun c => (c.1, c.2 * dec18p)

theorem amountOf_scale (coins : List (Nat × Nat)) (d : Nat) : amountOf (scale coins) d = amountOf coins d * dec18p := by
  induction coins with
  | nil => exact (Nat.zero_mul _).symm
  | cons c rest ih =>
    rw [scale, List.map_cons, amountOf_cons, amountOf_cons, Nat.add_mul, ← scale, ih]
    split
    · rfl
    · rw [Nat.zero_mul]

/-- **a redirected burn adds whole units and keeps the pool's fraction**: after crediting the coins, the pool's whole part
    grew by exactly the burned amount and its fractional part is what it was -/
theorem fundPool_keeps_fraction (coins : List (Nat × Nat)) (pool : Nat → Nat) (d : Nat) :
    fundPool pool (scale coins) d / dec18p = pool d / dec18p + amountOf coins d ∧
    fundPool pool (scale coins) d % dec18p = pool d % dec18p := by
  rw [fundPool_exact, amountOf_scale]
  have hp : 0 < dec18p := by decide
  constructor
  · rw [Nat.add_mul_div_right _ _ hp]
  · rw [Nat.add_mul_mod_self_right]

/-- a counterfactual body of the override (the seeded change `C14-pool-fraction-dropped-on-redirected-burn`), the shape
    that drops the fraction: the pool is truncated to whole units before the coins are added -/
def fundPoolTruncating (pool : Nat → Nat) (coins : List (Nat × Nat)) (d : Nat) : Nat :=
  (pool d / dec18p + amountOf coins d) * dec18p

/-- a pool of 10.5 units and a burn of 1000: the truncating shape ends at 1010, half a unit short of 1010.5 -/
theorem truncating_counterexample :
    fundPoolTruncating (fun _ => 105 * 10 ^ 17) [(0, 1000)] 0 = 1010 * 10 ^ 18 ∧
    fundPool (fun _ => 105 * 10 ^ 17) (scale [(0, 1000)]) 0 = 10105 * 10 ^ 17 := by
  decide

end Haqq.Ledger
