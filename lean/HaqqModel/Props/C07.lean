/-
  C07 — Every transaction pays the fee floor; EVM gas is charged exactly.

  English statement (properties.jsonl):
    No transaction is accepted in a block with a fee below gas-limit times the network minimum gas price
    in the EVM denomination, nor an Ethereum transaction whose fee cap is below the current base fee.  For
    an executed Ethereum transaction the sender's net payment is exactly gasUsed x effectiveGasPrice,
    where gasUsed is the larger of the EVM gas consumed after refunds and minGasMultiplier x gasLimit and
    never exceeds gasLimit; the fee collector receives exactly that amount and the rest of the up-front
    deduction returns to the sender.

  Formalisation: the interpreter's gas consumption and refund counter are inputs (`consumed ≤ gasLimit`, as
  the code checks); minGasMultiplier ≤ 1 as Params.Validate enforces.
-/
import HaqqModel.Model.Fees
import HaqqModel.Generated.Facts

namespace Haqq.Fees

theorem le_cosmosRequired (minGPraw gas : Nat) : minGPraw * gas ≤ cosmosRequired minGPraw gas * dec18 := by
  unfold cosmosRequired
  have h := Nat.div_add_mod (minGPraw * gas + dec18 - 1) dec18
  have := Nat.mod_lt (minGPraw * gas + dec18 - 1) (by decide : 0 < dec18)
  rw [Nat.mul_comm] at h
  omega

/-- Cosmos route: an accepted fee is at least minGasPrice × gasLimit -/
theorem cosmos_floor (minGPraw gas fee : Nat) (h : cosmosFloorAccept minGPraw gas fee = true) :
    minGPraw * gas ≤ fee * dec18 ∨ minGPraw * gas = 0 := by
  unfold cosmosFloorAccept at h
  split at h
  · rename_i h0; right; simp [h0]
  · split at h
    · cases h
    · exact .inl (Nat.le_trans (le_cosmosRequired minGPraw gas) (Nat.mul_le_mul_right _ (of_decide_eq_true h)))

/-- Ethereum route: an accepted fee (legacy: gasPrice × gas; typed: effective fee) is at least
    minGasPrice × gasLimit -/
theorem eth_floor (minGPraw typ gas gasPrice tip cap baseFee : Nat)
    (h : ethFloorAccept minGPraw typ gas gasPrice tip cap baseFee = true) (h0 : minGPraw ≠ 0) :
    minGPraw * gas ≤ (if typ = 0 then gasPrice * gas else effectivePrice (typ = 2) gasPrice tip cap baseFee * gas) * dec18 := by
  unfold ethFloorAccept at h
  simp only [h0, if_false, decide_eq_true_eq] at h
  exact h

/-- a transaction carrying several Ethereum messages is accepted only if *every* message on its own offers at least
    minGasPrice × its gas limit: an over-paying message cannot carry an under-paying one -/
theorem eth_floor_every_message (minGPraw baseFee : Nat) (msgs : List (Nat × Nat × Nat × Nat × Nat))
    (h : ethFloorAcceptTx minGPraw baseFee msgs = true) (h0 : minGPraw ≠ 0) :
    ∀ m ∈ msgs, minGPraw * m.2.1 ≤
      (if m.1 = 0 then m.2.2.1 * m.2.1 else effectivePrice (m.1 = 2) m.2.2.1 m.2.2.2.1 m.2.2.2.2 baseFee * m.2.1) * dec18 := by
  intro m hm
  unfold ethFloorAcceptTx at h
  rw [List.all_eq_true] at h
  exact eth_floor minGPraw m.1 m.2.1 m.2.2.1 m.2.2.2.1 m.2.2.2.2 baseFee (h m hm) h0

/-- … and the sums alone would not do: two messages whose totals meet the aggregate floor, one of them below its own -/
example : ethFloorAcceptTx (10 * dec18) 0 [(0, 100000, 19, 0, 0), (0, 100000, 1, 0, 0)] = false ∧
    (10 * dec18) * (100000 + 100000) ≤ (19 * 100000 + 1 * 100000) * dec18 := by decide

/-- an Ethereum tx whose fee cap is below the base fee is refused; otherwise the up-front fee is
    effectivePrice × gasLimit and the effective price lies between base fee and cap (dynamic) -/
theorem eth_cap_ge_base (typ gas gasPrice tip cap baseFee fee : Nat)
    (h : verifyFee typ gas gasPrice tip cap baseFee = some fee) :
    baseFee ≤ (if typ = 2 then cap else gasPrice) ∧
    fee = effectivePrice (typ = 2) gasPrice tip cap baseFee * gas ∧
    (typ = 2 → baseFee ≤ effectivePrice true gasPrice tip cap baseFee ∧ effectivePrice true gasPrice tip cap baseFee ≤ cap) := by
  unfold verifyFee at h
  by_cases hc : (if typ = 2 then cap else gasPrice) < baseFee
  · simp [hc] at h
  · simp only [hc, if_false, Option.some.injEq] at h
    refine ⟨Nat.not_lt.1 hc, h.symm, fun h2 => ?_⟩
    rw [if_pos h2] at hc
    exact ⟨Nat.le_min.2 ⟨Nat.le_add_left _ _, Nat.not_lt.1 hc⟩, Nat.min_le_right _ _⟩

theorem gasToRefund_le (a c q : Nat) : gasToRefund a c q ≤ a ∧ gasToRefund a c q ≤ c / q :=
  ⟨Nat.min_le_right _ _, Nat.min_le_left _ _⟩

/-- gasUsed is the larger of the consumption after refunds and the multiplier floor, and never exceeds
    the gas limit -/
theorem gasUsed_bounds (gasLimit consumed counter q multRaw : Nat)
    (hc : consumed ≤ gasLimit) (hm : multRaw ≤ dec18) :
    gasLimit * multRaw / dec18 ≤ gasUsed gasLimit consumed counter q multRaw ∧
    consumed - gasToRefund counter consumed q ≤ gasUsed gasLimit consumed counter q multRaw ∧
    gasUsed gasLimit consumed counter q multRaw ≤ gasLimit ∧
    (gasUsed gasLimit consumed counter q multRaw = gasLimit * multRaw / dec18 ∨
     gasUsed gasLimit consumed counter q multRaw = consumed - gasToRefund counter consumed q) := by
  have hfloor : gasLimit * multRaw / dec18 ≤ gasLimit :=
    Nat.div_le_of_le_mul (Nat.mul_comm dec18 _ ▸ Nat.mul_le_mul_left _ hm)
  refine ⟨Nat.le_max_left _ _, Nat.le_max_right _ _, Nat.max_le.2 ⟨hfloor, Nat.le_trans (Nat.sub_le _ _) hc⟩, ?_⟩
  exact (Nat.le_total _ _).elim (fun h => .inr (Nat.max_eq_right h)) fun h => .inl (Nat.max_eq_left h)

/-- **exact charging**: the sender's net payment is gasUsed × price, the fee collector keeps exactly
    that, and the rest of the up-front deduction returns to the sender -/
theorem net_payment (gasLimit used price : Nat) (h : used ≤ gasLimit) :
    (settle gasLimit used price).deducted - (settle gasLimit used price).refunded = used * price ∧
    (settle gasLimit used price).refunded ≤ (settle gasLimit used price).deducted ∧
    (settle gasLimit used price).refunded + used * price = gasLimit * price := by
  have key : (gasLimit - used) * price + used * price = gasLimit * price := by
    rw [← Nat.add_mul, Nat.sub_add_cancel h]
  exact ⟨Nat.sub_eq_of_eq_add (by rw [Nat.add_comm]; exact key.symm), Nat.mul_le_mul_right _ (Nat.sub_le _ _), key⟩

/-- the charge for a whole executed tx, end to end -/
theorem charged_exactly (gasLimit consumed counter q multRaw price : Nat)
    (hc : consumed ≤ gasLimit) (hm : multRaw ≤ dec18) :
    let used := gasUsed gasLimit consumed counter q multRaw
    (settle gasLimit used price).deducted - (settle gasLimit used price).refunded = used * price ∧ used ≤ gasLimit :=
  let hb := gasUsed_bounds gasLimit consumed counter q multRaw hc hm
  ⟨(net_payment gasLimit _ price hb.2.2.1).1, hb.2.2.1⟩

theorem refund_le_quotient (counter consumed q : Nat) : gasToRefund counter consumed q ≤ consumed / q :=
  (gasToRefund_le counter consumed q).2

/-- non-vacuity: the SSTORE-clearing call of the seeded change `C07-floor-before-refund` (limit 100000, consumed 26006,
    refund counter 4800, quotient 5, multiplier 0.5) is charged for 50000 gas -/
example : gasUsed 100000 26006 4800 5 (dec18 / 2) = 50000 ∧ gasUsed 30000 26006 4800 5 (dec18 / 2) = 21206 ∧
    cosmosFloorAccept (25 * 10 ^ 17) 1000 2500 = true ∧ cosmosFloorAccept (25 * 10 ^ 17) 1000 2499 = false ∧
    verifyFee 2 21000 0 1 999 1000 = none ∧ verifyFee 2 21000 0 5 2000 1000 = some (1005 * 21000) := by
  decide

/-- a Cosmos transaction that is admitted (base fee in force) is charged at least minGasPrice × gas, with or without the
    dynamic-fee extension option -/
theorem cosmos_charged_floor (minGPraw gas fee baseFee : Nat) (tip : Option Nat) (hm : 0 < minGPraw) (hg : 0 < gas)
    (h : cosmosFloorAcceptTx true true minGPraw gas fee baseFee tip = true) :
    minGPraw * gas ≤ cosmosCharged gas fee baseFee tip * dec18 := by
  simp only [cosmosFloorAcceptTx, Bool.and_eq_true, Bool.or_eq_true, Bool.not_true, Bool.and_false,
    decide_eq_true_eq] at h
  -- of the ways past the charged-amount test only the comparison itself is open: gas and the minimum are positive
  have hreq : cosmosRequired minGPraw gas ≤ cosmosCharged gas fee baseFee tip := by
    obtain ⟨_, (((h | h) | h) | h) | h⟩ := h
    · cases h
    · cases h
    · omega
    · omega
    · exact h
  exact Nat.le_trans (le_cosmosRequired minGPraw gas) (Nat.mul_le_mul_right _ hreq)

/-- before cda7d87: minimum gas price 1 (raw 10^18), gas 200 000, declared fee exactly the floor, tip 0, base fee 0 —
    accepted and charged nothing; with the repair it is refused -/
theorem cosmos_charged_below_floor_counterexample :
    cosmosFloorAcceptTx false false dec18 200000 200000 0 (some 0) = true ∧ cosmosCharged 200000 200000 0 (some 0) = 0 ∧
    cosmosFloorAcceptTx true false dec18 200000 200000 0 (some 0) = false := by decide

/-- cda7d87 alone: no extension option, minimum gas price 1.5, gas 3, declared fee 5 = ⌈4.5⌉, base fee 1 — accepted, and
    charged ⌊5/3⌋ × 3 = 3, below the floor; now it is refused -/
theorem cosmos_charged_rounded_down_counterexample :
    cosmosFloorAcceptTx true false (15 * 10 ^ 17) 3 5 1 none = true ∧ cosmosCharged 3 5 1 none = 3 ∧
    cosmosRequired (15 * 10 ^ 17) 3 = 5 ∧ cosmosFloorAcceptTx true true (15 * 10 ^ 17) 3 5 1 none = false := by decide

/-- the code's side of `cosmosFloorAcceptTx true true`: the decorator compares what will be charged with the floor for every
    Cosmos transaction, not only for those carrying the option (regenerated from app/ante/cosmos/min_price.go) -/
theorem cosmos_floor_looks_at_every_charged_amount :
    Haqq.Facts.cosmosFloorChargedScope = "charged-amount-of-every-transaction" := rfl

end Haqq.Fees
