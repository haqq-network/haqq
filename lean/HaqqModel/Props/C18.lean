/-
  C18 — Ethereum transactions survive the Cosmos envelope unchanged.

  English statement (properties.jsonl):
    Wrapping a signed Ethereum transaction into the chain's message format, encoding it into a Cosmos
    transaction, decoding it on the other side and unwrapping it yields a transaction with the same hash,
    the same recoverable sender and identical fields, for legacy, access-list and dynamic-fee
    transactions alike; the hash recorded in the message always equals the Ethereum hash.  Fee, cost and
    effective-price figures derived from the message equal those of the original transaction.

  Formalisation: the conversion eth → proto TxData → eth is modelled field by field (including the
  big-endian minimal byte encoding of V, R, S and go-ethereum's nil → 0 copy normalisation); the hash and
  the recovered sender are functions of the go-ethereum transaction, so field identity gives both.  The
  protobuf / Any / tx encoding in between is generated code: trusted here, exercised end-to-end by the
  correspondence run (sign → FromEthereumTx → BuildTx → encode → decode → AsTransaction).
-/
import HaqqModel.Model.EthTx

namespace Haqq.EthTx

theorem ofLE_leBytes (n : Nat) : ofLE (leBytes n) = n := by
  fun_induction leBytes n with
  | case1 => rfl
  | case2 n _ ih => rw [ofLE, ih]; exact Nat.mod_add_div n 256

/-- big.Int byte round trip: SetBytes(Bytes(n)) = n -/
theorem setBytes_bigBytes (n : Nat) : setBytes (bigBytes n) = n := by
  simp [setBytes, bigBytes, ofLE_leBytes]

theorem leBytes_nil_iff (n : Nat) : leBytes n = [] ↔ n = 0 := by
  constructor
  · intro h
    have := ofLE_leBytes n
    rw [h] at this; simpa [ofLE] using this.symm
  · intro h; subst h; unfold leBytes; simp

/-- a signature component survives: empty bytes ⇒ nil ⇒ 0, otherwise SetBytes -/
theorem sigVal_bigBytes (n : Nat) : sigVal (bigBytes n) = n := by
  unfold sigVal
  split
  · rename_i h
    have : leBytes n = [] := by simpa [bigBytes] using h
    exact ((leBytes_nil_iff n).1 this).symm
  · exact setBytes_bigBytes n

/-- **round trip**: for every transaction of the three types whose amounts fit 256 bits, wrapping and
    unwrapping yields the identical go-ethereum transaction (every field, including the signature) -/
theorem roundtrip (t : EthTx) (hn : t.normal = true) (p : PTx) (h : fromEth t = some p) : asEth p = t := by
  obtain ⟨typ, chainId, nonce, gas, gasPrice, tip, cap, to, value, data, access, v, r, s⟩ := t
  -- per type (0, 1, the rest): `p` is the message `fromEth` builds, and every field of `asEth p` is `t`'s own — the
  -- signature fields by `sigVal_bigBytes`, the fields the type does not carry (zero in `asEth p`) by `normal`
  rcases typ with _ | _ | n
  all_goals
    simp only [fromEth] at h
    split at h <;> cases h
    simp only [EthTx.normal, Bool.and_eq_true, beq_iff_eq, List.isEmpty_iff] at hn
    simp only [asEth, sigVal_bigBytes, hn, Option.getD_some, Option.getD_none, ↓reduceIte, Nat.succ_ne_self,
      reduceCtorEq, Nat.zero_add]

/-- hash and sender are functions of the go-ethereum transaction (opaque `H`, `recover`): identical
    transactions give identical hash and sender -/
theorem hash_and_sender_preserved {α β : Type} (H : EthTx → α) (recover : EthTx → β) (t : EthTx)
    (hn : t.normal = true) (p : PTx) (h : fromEth t = some p) :
    H (asEth p) = H t ∧ recover (asEth p) = recover t := by
  rw [roundtrip t hn p h]; exact ⟨rfl, rfl⟩

/-- a `value` that does not fit 256 bits is refused, not silently altered (stated for `value` only; `fromEth` tests the
    price fields the same way) -/
theorem safeInt_guard (t : EthTx) (h : ¬ t.value < 2 ^ 256) : fromEth t = none := by
  unfold fromEth
  have : fits256 t.value = false := decide_eq_false h
  split <;> simp only [this, Bool.false_and, Bool.false_eq_true, ↓reduceIte]

/-- fee and cost derived from the message are go-ethereum's own (`gasPriceField`, `EthTx.cost`); the effective price is the
    formula written out in the statement (no go-ethereum function is modelled for it), and the effective fee / cost are
    that price × gas (+ value) -/
theorem fee_cost_agree (t : EthTx) (hn : t.normal = true) (p : PTx) (h : fromEth t = some p) (baseFee : Nat) :
    p.fee = t.gasPriceField * t.gas ∧ p.cost = t.cost ∧
    p.effectiveGasPrice baseFee = (if t.typ = 2 then min (t.gasTipCap + baseFee) t.gasFeeCap else t.gasPrice) ∧
    p.effectiveFee baseFee = p.effectiveGasPrice baseFee * t.gas ∧
    p.effectiveCost baseFee = p.effectiveGasPrice baseFee * t.gas + t.value := by
  -- the figures read only fields that `asEth` copies, so they are those of `asEth p` for every message `p`
  obtain rfl := roundtrip t hn p h
  exact ⟨rfl, rfl, rfl, rfl, rfl⟩

/-- without a base fee (London not active) the message's effective price is go-ethereum's: the fee cap of a dynamic-fee
    transaction, the gas price of the other two types -/
theorem effective_price_without_base_fee (t : EthTx) (hn : t.normal = true) (p : PTx) (h : fromEth t = some p) :
    p.effectiveGasPriceO true none = some t.gasPriceField := by
  obtain rfl := roundtrip t hn p h
  simp only [PTx.effectiveGasPriceO, EthTx.gasPriceField, asEth]
  split <;> simp only [*, ↓reduceIte]

/-- since 44c9a51 every message has an effective price, with or without a base fee (the driver's reading of the figure
    never falls back on a default) -/
theorem effective_price_total (p : PTx) (b : Option Nat) : (p.effectiveGasPriceO true b).isSome = true := by
  -- of the four branches one answers `none`: a dynamic-fee message without a base fee when `nilSafe` is off
  fun_cases PTx.effectiveGasPriceO true p b with
  | case3 _ h => exact absurd rfl h
  | _ => rfl

/-- before 44c9a51: a dynamic-fee message (tip 2, cap 10) had no effective price without a base fee — the computation
    dereferenced the missing value — where go-ethereum says 10 -/
theorem effective_price_nil_base_counterexample :
    let t : EthTx := { typ := 2, chainId := 11235, nonce := 3, gas := 21000, gasPrice := 0, gasTipCap := 2, gasFeeCap := 10,
                       to := some 1, value := 5, data := [], access := [], v := 0, r := 1, s := 1 }
    (fromEth t).map (fun p => (p.effectiveGasPriceO false none, p.effectiveGasPriceO true none)) = some (none, some 10) := by
  decide

/-- non-vacuity: a dynamic-fee creation tx with a two-tuple access list, zero `s`, maximal value -/
example :
    let t : EthTx := EthTx.mk 2 11235 7 21000 0 0 1000000000 none (2 ^ 256 - 1) [0, 255] [(1, [1]), (2, [2, 3])]
      1 (2 ^ 255 + 5) 0
    t.normal = true ∧ (fromEth t).map asEth = some t := by
  intro t
  have hn : t.normal = true := by decide
  refine ⟨hn, ?_⟩
  cases h : fromEth t with
  | none => simp [t, fromEth, fits256] at h
  | some p => exact congrArg some (roundtrip t hn p h)

theorem normal_withSignature (t : EthTx) (v r s : Nat) : (withSignature t v r s).normal = t.normal := by
  simp [withSignature, EthTx.normal]

/-- **signing again forgets the old signature**: whatever signature the message carried before, the re-signed message
    unwraps to the same transaction carrying exactly the new values — in particular a new recovery id 0 replaces an
    old 1 -/
theorem resign_unwraps_to_new_signature (t : EthTx) (hn : t.normal = true) (p : PTx) (h : fromEth t = some p)
    (v r s : Nat) (p' : PTx) (h' : signMsg p v r s = some p') :
    asEth p' = withSignature t v r s := by
  have hp : asEth p = t := roundtrip t hn p h
  unfold signMsg at h'
  rw [hp] at h'
  exact roundtrip (withSignature t v r s) (by rw [normal_withSignature]; exact hn) p' h'

/-- … and does not depend on it: two messages that hold the same transaction under different signatures are re-signed
    to the same message -/
theorem resign_independent_of_old_signature (t : EthTx) (v1 r1 s1 v2 r2 s2 v r s : Nat) (p1 p2 : PTx)
    (hn : t.normal = true)
    (h1 : fromEth (withSignature t v1 r1 s1) = some p1) (h2 : fromEth (withSignature t v2 r2 s2) = some p2) :
    signMsg p1 v r s = signMsg p2 v r s := by
  have e1 := roundtrip _ (by rw [normal_withSignature]; exact hn) p1 h1
  have e2 := roundtrip _ (by rw [normal_withSignature]; exact hn) p2 h2
  unfold signMsg
  rw [e1, e2]
  simp [withSignature]

/-- non-vacuity: a dynamic-fee message signed with recovery id 1 is signed again with recovery id 0 — V is the empty
    byte string afterwards, not the old [1] -/
example :
    let t : EthTx := { typ := 2, chainId := 5, nonce := 1, gas := 21000, gasPrice := 0, gasTipCap := 1, gasFeeCap := 9,
                       to := some 7, value := 3, data := [], access := [], v := 1, r := 4, s := 5 }
    ((fromEth t).bind (fun p => signMsg p 0 8 9)).map (fun p => (p.v, p.r, p.s)) = some ([], [8], [9]) := by
  decide +kernel

end Haqq.EthTx
