/-
  Process-local memory of the keepers — facts shared by C01 (replicas agree: also a replica that joins later from a
  copy of the state) and C20 (a restarted node behaves like one that never stopped).  A value a keeper holds outside
  the store lives as long as the process does: unless construction or the next BeginBlock rebuilds it from the store
  or the header, it is an input that is not a block input.
-/
import HaqqModel.Generated.Facts

namespace Haqq.KeeperMemory

/-- receiver-field writes that construction (or the next BeginBlock) repeats on the restarted node -/
def rebuiltWriters : List (String × String) :=
  [ ("x/epochs/keeper/keeper.go::Keeper.hooks", "Keeper.SetHooks"),                 -- NewHaqq wiring
    ("x/evm/keeper/keeper.go::Keeper.eip155ChainID", "Keeper.WithChainID"),         -- BeginBlock, from the header
    ("x/evm/keeper/keeper.go::Keeper.hooks", "Keeper.CleanHooks"),                  -- test helper, no caller in app
    ("x/evm/keeper/keeper.go::Keeper.hooks", "Keeper.SetHooks"),                    -- NewHaqq wiring
    ("x/evm/keeper/precompiles.go::Keeper.precompiles", "Keeper.WithPrecompiles"),  -- NewHaqq wiring
    ("x/evm/keeper/precompiles.go::Keeper.precompiles", "Keeper.AddEVMExtensions") ] -- no caller, see below

/-- keeps the `… = []` and `….all …` facts below from being true because the typed sweep loaded nothing -/
theorem packages_loaded : Facts.determinismPackagesLoaded = true := rfl

theorem mem_writes_rebuilt : Facts.keeperFieldWriters.all (fun s => rebuiltWriters.contains s) = true := by decide +kernel

/-- the only container a keeper holds outside the store is the EVM keeper's precompile map, which construction fills
    (`WithPrecompiles`) and nothing changes afterwards (`mem_writes_rebuilt`, `no_dynamic_extensions`); a keeper
    field that can accumulate data in memory — a cache, a ring of recent values, a counter behind a pointer — is
    state a restarted node does not have -/
theorem keepers_hold_no_memory : Facts.keeperMemFields =
    [("x/evm/keeper::Keeper.eip155ChainID", "ptr:math/big.Int"),      -- re-derived from the header in every BeginBlock
     ("x/evm/keeper::Keeper.precompiles", "map")] := rfl

/-- the same for everything else that is built once per process and sits on the transaction path: ante / post
    decorators and precompiles hold no container, lock or private structure — the authz limiter's list of barred type
    URLs is filled at construction and never written (`handlers_never_write_their_fields`), the wrapped-coin precompile
    embeds the ERC20 precompile -/
theorem handlers_hold_no_memory : Facts.handlerMemFields =
    [("app/ante/cosmos::AuthzLimiterDecorator.disabledMsgTypes", "slice"),
     ("precompiles/werc20::Precompile.Precompile", "ptr:precompiles/erc20.Precompile")] := rfl

theorem handlers_never_write_their_fields : Facts.handlerFieldWriters = [] := rfl

/-- package-level variables are written by `init` and by the encoding set-up that construction runs, by nothing else:
    no package-level cache, counter or memo on the transaction path -/
theorem package_vars_written_at_construction_only : Facts.packageVarWriters =
    [("ethereum/eip712/encoding.go::aminoCodec", "SetEncodingConfig"),
     ("ethereum/eip712/encoding.go::protoCodec", "SetEncodingConfig")] := rfl

/-- no function writes through a slice a KVStore handed out: such a slice is the store's own (cached, committed) copy, a
    write through it bypasses the transaction's branch of the state and survives a failed message — memory of the process
    that a restarted node or a replica does not share -/
theorem store_slices_never_written_in_place : Facts.storeSlicesWrittenInPlace = [] := rfl

/-- extensions are never registered after construction: the only function that calls `AddEVMExtensions` is the
    ERC20 registration helper, and nothing calls that -/
theorem no_dynamic_extensions :
    Facts.dynamicExtensionCallers = ["x/erc20/keeper/precompiles.go::RegisterERC20Extensions→AddEVMExtensions"] := rfl

end Haqq.KeeperMemory
