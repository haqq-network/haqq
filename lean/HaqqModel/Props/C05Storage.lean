/-
  C05 / C02 — the storage half of `StateDB.Commit`.

  `Commit` does not write every slot of a dirty object: it skips a slot whose value equals the value the object last
  saw committed (`transientStorage[key]` if an earlier Commit of this transaction wrote the slot, `originStorage[key]`
  otherwise).  The model keeps that reference value as `Obj.base`.  The theorems here say when the skipping is
  harmless.

    * `commit_writes_storage`: if every cached object's reference values are what the keeper holds (`BaseCoh`) and C02's
      `Good` holds (used: a dirty address is cached, no cached object is self-destructed), then after Commit the keeper
      holds in every listed slot of every dirty address of the universe what `GetState` returned, and everything else
      in its storage is untouched.
    * `basecoh_commit`: under the same hypotheses `BaseCoh` holds again after Commit (so a second Commit in the same
      transaction — the flush every precompile performs on entry — writes exactly the slots changed since the first).
    * `basecoh_mstep`: every journaled EVM-side mutation preserves `BaseCoh`.
  What breaks `BaseCoh` is a Commit that deletes the account under a self-destructed object (the keeper's storage is
  cleared, the object's reference values are not) followed by a revert that resurrects the object: the code then
  skips slots whose keeper copy is gone (the recorded finding `C05:reverted-span-leaves-trace-in-store:deleted-in-span`).
-/
import HaqqModel.Props.C02

namespace Haqq.SDB

def BaseCoh (db : DB) : Prop := ∀ a o, db.objs a = some o → ∀ key, o.base key = db.k.store a key

theorem commit_writes_storage (db : DB) (keys : List Nat) (N : Nat) (hg : Good db N) (hc : BaseCoh db) (b key : Nat) :
    (commit db (List.range N) keys).k.store b key =
      (if b < N ∧ 0 < db.dirties b ∧ key ∈ keys then DB.getState db b key else db.k.store b key) := by
  obtain ⟨k', hb, h⟩ := commit_obs (fun k => k.store b) db keys b
    (fun k a ha => ((commitOne_shape db k a keys).2 b ha.symm).2.2)
  rw [h N]
  by_cases hd : b < N ∧ 0 < db.dirties b
  · cases ho : db.objs b with
    | none => exact absurd ho (hg.dc b hd.2)
    | some o =>
      -- the keeper still holds at `b` what it held before Commit, which is the object's reference values
      rw [if_pos hd, (commitOne_live k' keys ho (hg.ns b o ho)).2.2 key, hb, ← hc b o ho key,
        show DB.getState db b key = o.stor key by simp only [DB.getState, get_of_objs ho]]
      by_cases hm : key ∈ keys
      · by_cases hne : o.stor key = o.base key <;> simp only [hd, hm, hne, ne_eq, and_self, not_true_eq_false, and_false,
          not_false_eq_true, if_true, if_false]
      · simp only [hm, false_and, and_false, if_false]
  · rw [if_neg hd, if_neg (fun h => hd ⟨h.1, h.2.1⟩)]

theorem basecoh_commit (db : DB) (keys : List Nat) (N : Nat) (hg : Good db N) (hc : BaseCoh db) :
    BaseCoh (commit db (List.range N) keys) := by
  intro a o' ho' key
  rw [commit_writes_storage db keys N hg hc a key]
  simp only [commit] at ho'
  by_cases hcond : a ∈ List.range N ∧ db.dirties a > 0
  · rw [if_pos hcond] at ho'
    obtain ⟨o, ho, rfl⟩ := Option.map_eq_some_iff.1 ho'
    have hlt : a < N ∧ 0 < db.dirties a := ⟨List.mem_range.1 hcond.1, hcond.2⟩
    simp only [flushObj, hg.ns a o ho, Bool.false_eq_true, if_false, hlt, true_and, DB.getState, get_of_objs ho]
    split
    · rfl
    · exact hc a o ho key
  · rw [if_neg hcond] at ho'
    rw [if_neg (fun h => hcond ⟨List.mem_range.2 h.1, h.2.1⟩)]
    exact hc a o' ho' key

theorem get_base {db : DB} {a : Nat} {o : Obj} (hc : BaseCoh db) (h : db.get a = some o) (key : Nat) :
    o.base key = db.k.store a key := by
  rcases get_eq_some h with h | ⟨_, _, rfl⟩
  · exact hc a o h key
  · rfl

theorem basecoh_load (db : DB) (a : Nat) (hc : BaseCoh db) : BaseCoh (db.load a) := by
  obtain ⟨hO, hk, _⟩ := load_fields db a
  intro b o ho key
  rw [hO] at ho
  rw [hk]
  by_cases hb : b = a
  · rw [hb, upd_same] at ho; exact hb ▸ get_base hc ho key
  · rw [upd_other hb] at ho; exact hc b o ho key

/-- the object an operation installs has the reference values of the object it found, or is fresh -/
theorem basecoh_mstepCore (db : DB) (op : MOp) (hc : BaseCoh db) : BaseCoh (mstepCore db op) := by
  rcases mstepCore_cases db op with e | ⟨a, e, o', hw, e'⟩ | ⟨e, he⟩
  · rwa [e]
  · intro b ob hob key
    rw [e', objs_push_setObj] at hob
    rw [e', k_push_setObj]
    by_cases hb : b = a
    · rw [hb, upd_same] at hob
      cases hob
      rw [hb]
      cases hw with
      | create | createNew | createOver => rfl
      | setBal h | setNonce h | setState h | suicide h => exact get_base hc h key
    · rw [upd_other hb] at hob; exact hc b ob hob key
  · rw [he.frame, DB.push_def]; exact hc

theorem load_k' (db : DB) (a : Nat) : (db.load a).k = db.k :=
  (load_fields db a).2.1

theorem basecoh_mstep (db : DB) (op : MOp) (hc : BaseCoh db) : BaseCoh (mstep db op) := by
  fun_cases mstep db op with
  | case1 a => exact basecoh_mstepCore _ op (basecoh_load db a hc)
  | case2 => exact basecoh_mstepCore db op hc

theorem basecoh_new (k : Keeper) : BaseCoh (DB.new k) :=
  fun _ _ h => nomatch h

/-- non-vacuity: a contract writes two slots, Commit stores exactly those (slot 2 was written back to its
    committed value and is skipped without loss) -/
example :
    let k : Keeper := { exist := fun a => a == 0, bal := fun _ => 0, nonce := fun _ => 0,
                        store := fun a s => if a = 0 ∧ s = 2 then 9 else 0, supply := 0 }
    let db := setState (setState (setState (DB.new k) 0 1 7) 0 2 5) 0 2 9
    (commit db (List.range 2) [0, 1, 2]).k.store 0 1 = 7 ∧ (commit db (List.range 2) [0, 1, 2]).k.store 0 2 = 9 := by
  decide

end Haqq.SDB
