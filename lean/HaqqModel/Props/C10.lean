/-
  C10 — ERC20 <-> coin conversion keeps a 1:1 backed peg.

  English statement (properties.jsonl):
    For every registered token pair the circulating representation is always fully backed: for a coin-origin pair
    the ERC20 total supply never exceeds the coins escrowed in the module account (and equals them unless holders
    burn their own tokens), and for an ERC20-origin pair the coin supply never exceeds the tokens escrowed by the
    module.  Each conversion … debits one representation and credits the other by exactly the same amount or
    fails without effect, even against token contracts that misreport balances or emit unexpected events.

  Theorems over `Model/Peg.lean` (honest token contract): every operation moves the two sides of the backing (in)equation
  in `Lockstep`, or one side alone in the direction that keeps it (`step_coinOrigin`, `step_erc20Origin`).  Exactness of a
  conversion is stated for MsgConvertCoin only (`convert_exact`); a refused operation changes nothing (`step_refused`).
  Adversarial token contracts are outside the honest model; what the code does against them is decided by the
  correspondence run (the repository's malicious test tokens, a hand-assembled log-forging token), and the two
  counterexamples at the end show the known findings (`known_findings.json`) on the model.
-/
import HaqqModel.Model.Peg

namespace Haqq.Peg

theorem step_refused (p : Pair) (op : Op) (h : (step p op).2 = false) : (step p op).1 = p := by
  revert h
  -- a refusing branch of `step` returns `(p, false)`: `rfl`; an accepting one `(_, true)`: `h` is `true = false`
  fun_cases step p op <;> intro h <;> first | rfl | cases h

/-- a conversion by an account that holds no coins of the denomination named — which is what a MsgConvertCoin naming the
    pair by its contract address is: nobody holds coins of such a "denomination" — is refused and changes nothing -/
theorem convertCoin_without_coins_refused (p : Pair) (s r x : Nat) (h : p.coinBal s = 0) :
    step p (.convertCoin s r x) = (p, false) :=
  if_pos (by omega)  -- the first guard: `x = 0 ∨ p.coinBal s < x`

def Op.amount : Op → Nat
  | .convertCoin _ _ x | .convertERC20 _ _ x | .transfer _ _ x | .burnOwn _ x | .mintExt _ x => x
  | .toggle => 0

def isBurn : Op → Bool
  | .burnOwn _ _ => true
  | _ => false

/-- `(a, b)` becomes `(a', b')` in lockstep: both stay, both grow by `x`, or both shrink by `x` (truncated subtraction
    keeps `≤` and `=`) -/
def Lockstep (x a b a' b' : Nat) : Prop :=
  a' = a ∧ b' = b ∨ a' = a + x ∧ b' = b + x ∨ a' = a - x ∧ b' = b - x

theorem Lockstep.le {x a b a' b' : Nat} (h : Lockstep x a b a' b') (hab : a ≤ b) : a' ≤ b' := by
  rcases h with ⟨ha, hb⟩ | ⟨ha, hb⟩ | ⟨ha, hb⟩ <;> rw [ha, hb]
  · exact hab
  · exact Nat.add_le_add_right hab x
  · exact Nat.sub_le_sub_right hab x

theorem Lockstep.eq {x a b a' b' : Nat} (h : Lockstep x a b a' b') (hab : a = b) : a' = b' := by
  rcases h with ⟨ha, hb⟩ | ⟨ha, hb⟩ | ⟨ha, hb⟩ <;> rw [ha, hb, hab]

/-- on a coin-origin pair only a holder's burn moves one side alone: it lowers the supply -/
theorem step_coinOrigin (p : Pair) (op : Op) (he : p.external = false) :
    (step p op).1.external = false ∧
    (Lockstep op.amount p.tokSupply p.escrow (step p op).1.tokSupply (step p op).1.escrow ∨
     isBurn op = true ∧ (step p op).1.tokSupply = p.tokSupply - op.amount ∧ (step p op).1.escrow = p.escrow) := by
  fun_cases step p op with
  | case2 => exact ⟨he, .inl (.inr (.inl ⟨rfl, rfl⟩))⟩           -- convertCoin: both up
  | case7 | case13 => exact ⟨he, .inl (.inr (.inr ⟨rfl, rfl⟩))⟩  -- convertERC20, a transfer the hook converts: both down
  | case16 => exact ⟨he, .inr ⟨rfl, rfl, rfl⟩⟩                   -- burnOwn
  | case18 _ _ h => exact absurd (.inl (by rw [he]; rfl)) h      -- an accepted mintExt: its guard wants an external owner
  | _ => exact ⟨he, .inl (.inl ⟨rfl, rfl⟩)⟩                      -- refused, or neither side is written

/-- on an ERC20-origin pair only tokens sent to the module of a disabled pair move one side alone: they raise the
    module's balance (the hook skips them) -/
theorem step_erc20Origin (p : Pair) (op : Op) (he : p.external = true) :
    (step p op).1.external = true ∧
    (Lockstep op.amount p.coinSupply (p.tokBal modAddr) (step p op).1.coinSupply ((step p op).1.tokBal modAddr) ∨
     (step p op).1.coinSupply = p.coinSupply ∧ (step p op).1.tokBal modAddr = p.tokBal modAddr + op.amount) := by
  fun_cases step p op
  case case2 | case6 | case7 | case12 | case13 =>                       -- the coin-origin branches
    exact absurd ‹(!p.external) = true› (by rw [he]; nofun)
  case case1 | case3 | case5 | case9 | case15 | case17 | case19 =>      -- refused; toggle
    exact ⟨he, .inl (.inl ⟨rfl, rfl⟩)⟩
  case' case4 => refine ⟨he, .inl (.inr (.inr ⟨rfl, ?_⟩))⟩              -- convertCoin: both down
  case' case8 | case14 => refine ⟨he, .inl (.inr (.inl ⟨rfl, ?_⟩))⟩     -- convertERC20, a transfer the hook converts: up
  case' case11 => refine ⟨he, .inr ⟨rfl, ?_⟩⟩                           -- a transfer the hook skips
  case' case10 | case16 | case18 => refine ⟨he, .inl (.inl ⟨rfl, ?_⟩)⟩  -- transfer between users, burnOwn, mintExt
  -- left in each: the module's token balance, read through `upd`; the accounts written (`s`, `r`, `f`, `t`) are not the
  -- module's by the branch's own guard, which `lia` hands to `upd_other`
  all_goals simp +zetaDelta (disch := lia) only [upd_same, upd_other, Op.amount]

theorem step_backed (p : Pair) (op : Op) (h : Backed p) : Backed (step p op).1 := by
  unfold Backed at *
  cases he : p.external
  · obtain ⟨h1, h2⟩ := step_coinOrigin p op he
    simp only [he, h1, Bool.false_eq_true, if_false] at h ⊢
    rcases h2 with h2 | ⟨_, a, b⟩
    · exact h2.le h
    · rw [a, b]; exact Nat.le_trans (Nat.sub_le _ _) h
  · obtain ⟨h1, h2⟩ := step_erc20Origin p op he
    simp only [he, h1, if_true] at h ⊢
    rcases h2 with h2 | ⟨a, b⟩
    · exact h2.le h
    · rw [a, b]; exact Nat.le_trans h (Nat.le_add_right _ _)

/-- **fully backed after every history** of conversions, transfers, burns, mints and toggles -/
theorem run_backed (ops : List Op) : ∀ p, Backed p → Backed (ops.foldl (fun q op => (step q op).1) p) :=
  fun _ h => List.foldlRecOn ops _ h fun q hq op _ => step_backed q op hq

theorem send_backed (p : Pair) (f t x : Nat) (h : Backed p) : Backed (sendStep p f t x).1 := by
  -- the sender's coins are converted first, unless it holds none
  have h1 : Backed (if p.coinBal f = 0 then (p, true) else step p (.convertCoin f f (p.coinBal f))).1 := by
    split
    · exact h
    · exact step_backed p _ h
  fun_cases sendStep p f t x with
  | case6 => exact step_backed _ _ h1  -- then the transfer
  | _ => exact h  -- refused (`p` itself), or coins moved between users, which `Backed` does not read

/-- a coin-origin pair is backed *exactly* as long as no holder burns its own tokens -/
theorem coin_origin_exact (ops : List Op) (hnb : ops.all (fun op => !isBurn op) = true) :
    ∀ p, p.external = false → p.tokSupply = p.escrow →
      (ops.foldl (fun q op => (step q op).1) p).tokSupply = (ops.foldl (fun q op => (step q op).1) p).escrow ∧
      (ops.foldl (fun q op => (step q op).1) p).external = false := by
  intro p he h
  refine List.foldlRecOn (motive := fun q : Pair => q.tokSupply = q.escrow ∧ q.external = false) ops _ ⟨h, he⟩
    fun q ⟨hq, hqe⟩ op hop => ?_
  have hb : isBurn op = false := by simpa using List.all_eq_true.1 hnb op hop
  obtain ⟨h1, h2 | ⟨h2, _⟩⟩ := step_coinOrigin q op hqe
  · exact ⟨h2.eq hq, h1⟩
  · rw [hb] at h2; cases h2

theorem convert_exact (p : Pair) (s r x : Nat) (h : (step p (.convertCoin s r x)).2 = true) :
    (step p (.convertCoin s r x)).1.coinBal s + x = p.coinBal s ∧
    (step p (.convertCoin s r x)).1.tokBal r = p.tokBal r + x := by
  revert h
  -- `fun_cases` on the constructor term would abstract it and lose the link to `s r x`: `hop` keeps it, and `cases hop`
  -- closes the other operations' branches
  generalize hop : Op.convertCoin s r x = op
  -- the four branches of convertCoin; where it is accepted the guard gives `x ≤ p.coinBal s` and `r ≠ modAddr`
  fun_cases step p op <;> cases hop <;> intro h
  · cases h                                                                        -- refused by the guard
  · simp only [upd_same, and_true]; omega                                          -- coin-origin
  · cases h                                                                        -- the module is short of tokens
  · simp +zetaDelta (disch := omega) only [upd_same, upd_other, and_true]; omega   -- ERC20-origin

/-- the recorded finding `C10:hook-trusts-logs:forged-transfer-log-mints-unbacked-coins` on the model: an ERC20-origin
    pair whose token contract forges a `Transfer(from, module, 500)` log: the hook mints 500 coins although the
    module's token balance did not move — the coin supply is no longer backed -/
theorem forged_log_counterexample :
    let p : Pair := { external := true, enabled := true, escrow := 0, coinSupply := 100, coinBal := fun _ => 0,
                      tokSupply := 1000, tokBal := fun a => if a = 0 then 100 else 0 }
    Backed p ∧ ¬ Backed (forgedLog p 7 500) := by
  unfold Backed; decide

/-- the recorded finding `C10:hook-ignores-approvals:escrow-of-hook-converted-tokens-drained` on the model: a holder of
    a token whose `transfer` approves a third address on the recipient sends 200 tokens to the module address; the hook
    (which, unlike the message path, does not look for Approval events) mints 200 coins; the approved address empties
    the escrow — 200 coins are backed by nothing -/
theorem hook_ignores_approvals_counterexample :
    let p : Pair := { external := true, enabled := true, escrow := 0, coinSupply := 0, coinBal := fun _ => 0,
                      tokSupply := 1000, tokBal := fun a => if a = 1 then 1000 else 0 }
    let q := (step p (.transfer 1 modAddr 200)).1
    Backed p ∧ Backed q ∧ q.coinSupply = 200 ∧ ¬ Backed (drainEscrow q 9 200) := by
  unfold Backed; decide

example : Backed { external := false, enabled := true, escrow := 5, coinSupply := 9, coinBal := fun _ => 3,
                   tokSupply := 5, tokBal := fun _ => 1 } := by simp [Backed]

end Haqq.Peg
