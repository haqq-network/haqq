/-
  C20 — Restarting a node at any block boundary changes nothing.

  English statement (properties.jsonl):
    A node that is stopped after committing any block and restarted from its database continues exactly like a
    node that never stopped … Behaviour never depends on in-memory state that is not rebuilt from the database
    on start.

  Level: partial.  A node is `(db, mem)`: `db` the committed multistore, `mem` the process-local fields of the
  keepers.  The model proves that *if* every write to `mem` after construction is one that construction followed
  by the next BeginBlock repeats (`Rebuilt`), then a restarted node is indistinguishable from the running one for
  every continuation (`restart_equiv`); and that without the hypothesis the conclusion can fail
  (`unrebuilt_write_counterexample`).  The hypothesis is argued, not proved, from the facts regenerated from the source
  (`Props/KeeperMemory.lean`, shared with C01: `mem_writes_rebuilt`):
  the only receiver-field writes in Keeper / Haqq methods are the listed ones (construction-time `With*` /
  `SetHooks`, the chain id re-derived in BeginBlock, and `AddEVMExtensions`, which has no caller outside its own
  registration helper).  What the model cannot exhibit — OS / filesystem behaviour of a real crash — is not
  claimed by the property (block boundaries only); the restart run on copied databases searches the rest.
-/
import HaqqModel.Props.KeeperMemory

namespace Haqq.C20

structure Node (DB Mem : Type) where
  db : DB
  mem : Mem

variable {DB Mem Blk Out : Type}

structure App (DB Mem Blk Out : Type) where
  construct : DB → Mem                          -- NewHaqq over an existing database
  step : Node DB Mem → Blk → Node DB Mem × Out  -- BeginBlock … Commit

def App.run (A : App DB Mem Blk Out) (n : Node DB Mem) : List Blk → Node DB Mem × List Out
  | [] => (n, [])
  | b :: bs =>
    let r := A.step n b
    let rest := A.run r.1 bs
    (rest.1, r.2 :: rest.2)

def App.restart (A : App DB Mem Blk Out) (n : Node DB Mem) : Node DB Mem := { db := n.db, mem := A.construct n.db }

/-- two memories are interchangeable when every block has the same effect and leaves interchangeable memories:
    given as a relation `R` that the step preserves -/
structure Rebuilt (A : App DB Mem Blk Out) (R : DB → Mem → Mem → Prop) : Prop where
  /-- the premise: `R` need not be reflexive; `R db m m` is how one says that `m` is a memory a running node over `db` can
      hold (`step_ok` with `m1 = m2` keeps it), and `restart_equiv` asks it of the node that is restarted -/
  construct_ok : ∀ n : Node DB Mem, R n.db n.mem n.mem → R n.db n.mem (A.construct n.db)
  step_ok : ∀ db m1 m2 b, R db m1 m2 →
    (A.step ⟨db, m1⟩ b).1.db = (A.step ⟨db, m2⟩ b).1.db ∧ (A.step ⟨db, m1⟩ b).2 = (A.step ⟨db, m2⟩ b).2 ∧
    R (A.step ⟨db, m1⟩ b).1.db (A.step ⟨db, m1⟩ b).1.mem (A.step ⟨db, m2⟩ b).1.mem

theorem run_equiv (A : App DB Mem Blk Out) (R : DB → Mem → Mem → Prop) (h : Rebuilt A R) (bs : List Blk) :
    ∀ db m1 m2, R db m1 m2 →
      (A.run ⟨db, m1⟩ bs).2 = (A.run ⟨db, m2⟩ bs).2 ∧ (A.run ⟨db, m1⟩ bs).1.db = (A.run ⟨db, m2⟩ bs).1.db := by
  induction bs with
  | nil => intro db m1 m2 _; exact ⟨rfl, rfl⟩
  | cons b bs ih =>
    intro db m1 m2 hr
    obtain ⟨hdb, hout, hr'⟩ := h.step_ok db m1 m2 b hr
    obtain ⟨i1, i2⟩ := ih _ _ _ hr'
    -- the two nodes after the block differ in memory only
    have e : (A.step ⟨db, m2⟩ b).1 = ⟨(A.step ⟨db, m1⟩ b).1.db, (A.step ⟨db, m2⟩ b).1.mem⟩ := by rw [hdb]
    simp only [App.run]
    rw [e, hout]
    exact ⟨congrArg _ i1, i2⟩

theorem restart_equiv (A : App DB Mem Blk Out) (R : DB → Mem → Mem → Prop) (h : Rebuilt A R)
    (n : Node DB Mem) (hn : R n.db n.mem n.mem) (bs : List Blk) :
    (A.run n bs).2 = (A.run (A.restart n) bs).2 ∧ (A.run n bs).1.db = (A.run (A.restart n) bs).1.db :=
  run_equiv A R h bs n.db n.mem (A.construct n.db) (h.construct_ok n hn)

/-- when some block writes memory that construction does not rebuild, the restarted node diverges: memory = a
    cached copy of a parameter, filled by the first block and never refreshed; the database parameter changes at
    block 1; the restarted node (empty cache) reads the new value, the running node its stale copy -/
def cacheApp : App Nat (Option Nat) Nat Nat where
  construct := fun _ => none
  step := fun n b =>
    let db' := if b = 1 then n.db + 1 else n.db              -- block 1 changes the parameter
    let used := match n.mem with | some v => v | none => db'  -- memoised value, else read the database
    ({ db := db', mem := some used }, used)

theorem unrebuilt_write_counterexample :
    let n0 : Node Nat (Option Nat) := { db := 7, mem := none }
    let n1 := (cacheApp.run n0 [0, 1]).1           -- ran two blocks; the parameter changed in the second
    (cacheApp.run n1 [2]).2 = [7] ∧ (cacheApp.run (cacheApp.restart n1) [2]).2 = [8] := by
  decide

end Haqq.C20
