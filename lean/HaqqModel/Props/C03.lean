/-
  C03 — Only the key holder can authorise a transaction, once.

  English statement (properties.jsonl):
    A transaction is executed on behalf of an account only if it carries a valid signature by that account's key
    over exactly the transaction content, the chain id and the account's current sequence number; changing any
    signed field, replaying it on this chain a second time, or replaying a signature made for another chain id is
    rejected.  This holds for Ethereum-signed transactions, for Cosmos transactions and for EIP-712-signed ones.

  Level: partial.  The cryptography (ECDSA recovery, Keccak, the EIP-712 hash) is assumed, explicitly:
  `Unforgeable` says a signature made over one payload does not verify for the same signer over a different
  payload.  Proved: the replay logic for every history of each route and of both interleaved with other rewrites of the
  account (provided those keep the sequence: `KeepsSequence`); that execution leaves the sequence where the ante handler
  put it; the binding per sign mode under `Unforgeable`; the shape of the two Ethereum-route decorators over regenerated
  facts (`eth_sequence_checked_per_message`, `eth_signature_bound_to_chain`).
  The correspondence run drives the real ante chains and DeliverTx with valid, mutated (every field of every
  transaction type, signature kept), replayed, foreign-chain and batched transactions.
-/
import HaqqModel.Model.Replay
import HaqqModel.Generated.Facts

namespace Haqq.Replay

theorem ethAccept_iff (ns : List Nat) : ∀ seq s', ethAccept seq ns = some s' ↔
    (ns = List.range' seq ns.length ∧ s' = seq + ns.length) := by
  intro seq s'
  fun_induction ethAccept seq ns with
  | case1 seq => simp [eq_comm]
  | case2 n rest ih =>
    rw [ih, List.length_cons, List.range'_succ, List.cons.injEq, and_iff_right rfl, Nat.add_comm rest.length 1,
      ← Nat.add_assoc]
  | case3 seq n rest h => simp [List.range'_succ, h]

theorem ethAccept_lt {seq : Nat} {ns : List Nat} {s' : Nat} (h : ethAccept seq ns = some s') : ∀ n ∈ ns, n < s' := by
  obtain ⟨h1, rfl⟩ := (ethAccept_iff ns seq s').mp h
  intro n hn
  rw [h1] at hn
  exact (List.mem_range'_1.mp hn).2

/-- an accepted (non-empty) transaction is refused whenever it is submitted again later -/
theorem replay_rejected (seq : Nat) (ns : List Nat) (s' : Nat) (hne : ns ≠ []) (h : ethAccept seq ns = some s')
    (later : Nat) (hl : s' ≤ later) : ethAccept later ns = none := by
  cases ns with
  | nil => exact absurd rfl hne
  | cons n rest =>
    rw [ethAccept, if_neg (Nat.ne_of_lt (Nat.lt_of_lt_of_le (ethAccept_lt h n List.mem_cons_self) hl))]

/-- what a history of Ethereum-route submissions executes: one block of consecutive nonces from the initial sequence on -/
theorem runEth_spec (txs : List (List Nat)) (seq : Nat) : ∃ n, runEth seq txs = (seq + n, List.range' seq n) := by
  fun_induction runEth seq txs with
  | case1 seq => exact ⟨0, rfl⟩
  | case2 seq tx rest s' h r ih =>
    obtain ⟨h1, rfl⟩ := (ethAccept_iff tx seq s').mp h
    obtain ⟨m, hm⟩ := ih
    exact ⟨tx.length + m, by rw [← Nat.add_assoc, ← List.range'_append_1, ← h1]; simp only [r, hm]⟩
  | case3 _ _ _ _ ih => exact ih

/-- **each nonce once, in order**: over any history of valid, duplicated, out-of-order and batched submissions the
    nonces that execute are exactly seq₀, seq₀+1, … up to the final sequence -/
theorem executed_consecutive (seq : Nat) (txs : List (List Nat)) :
    (runEth seq txs).2 = List.range' seq ((runEth seq txs).1 - seq) := by
  obtain ⟨n, h⟩ := runEth_spec txs seq
  rw [h, Nat.add_sub_cancel_left]

theorem executed_nodup (seq : Nat) (txs : List (List Nat)) : (runEth seq txs).2.Nodup := by
  rw [executed_consecutive]; exact List.nodup_range'

theorem cosAccept_some {seq txSeq : Nat} {c i : Bool} {s' : Nat} (h : cosAccept seq txSeq c i = some s') :
    txSeq = seq ∧ s' = seq + 1 := by
  revert h
  fun_cases cosAccept seq txSeq c i with
  | case1 hc => rintro ⟨⟩; exact ⟨hc.1, rfl⟩
  | case2 => nofun

theorem cos_replay_rejected (seq txSeq : Nat) (c i : Bool) (s' : Nat) (h : cosAccept seq txSeq c i = some s')
    (later : Nat) (hl : s' ≤ later) : cosAccept later txSeq c i = none := by
  obtain ⟨rfl, rfl⟩ := cosAccept_some h
  exact if_neg fun ⟨e, _⟩ => Nat.ne_of_lt hl e

/-- the other rewrites of the account never lower its sequence (`seq ≤ n`; what every non-transaction code path that
    stores an account must do: conversion into a vesting account, clawback, upgrade handlers) -/
def KeepsSequence : Nat → List Ev → Prop
  | _, [] => True
  | seq, .eth ns :: rest =>
    (match ethAccept seq ns with
     | some s' => KeepsSequence s' rest
     | none => KeepsSequence seq rest)
  | seq, .cos t c i :: rest =>
    (match cosAccept seq t c i with
     | some s' => KeepsSequence s' rest
     | none => KeepsSequence seq rest)
  | seq, .other n :: rest => seq ≤ n ∧ KeepsSequence n rest

/-- what a mixed history executes: a subsequence of `seq, seq + 1, …` below the final sequence — all of them in
    `runEth_spec`; here another rewrite of the account may skip numbers up to the sequence it sets -/
theorem runMixed_sublist (evs : List Ev) (seq : Nat) (hk : KeepsSequence seq evs) :
    ∃ n, (runMixed seq evs).1 = seq + n ∧ (runMixed seq evs).2.Sublist (List.range' seq n) := by
  -- `KeepsSequence` recurses as `runMixed` does: in each branch it unfolds to the premise of the induction hypothesis
  fun_induction runMixed seq evs with
  | case1 seq => exact ⟨0, rfl, .slnil⟩
  | case2 seq ns rest s' h r ih =>
    rw [KeepsSequence, h] at hk
    obtain ⟨h1, rfl⟩ := (ethAccept_iff ns seq s').mp h
    obtain ⟨m, e, sub⟩ := ih hk
    refine ⟨ns.length + m, by rw [e, Nat.add_assoc], ?_⟩
    rw [← List.range'_append_1, ← h1]
    exact sub.append_left ns
  | case4 seq t c i rest s' h r ih =>
    rw [KeepsSequence, h] at hk
    obtain ⟨rfl, rfl⟩ := cosAccept_some h
    obtain ⟨m, e, sub⟩ := ih hk
    exact ⟨m + 1, by rw [e, Nat.add_assoc, Nat.add_comm 1], sub.cons_cons t⟩
  | case3 _ _ _ h ih | case5 _ _ _ _ _ h ih => rw [KeepsSequence, h] at hk; exact ih hk
  | case6 seq n rest ih =>
    rw [KeepsSequence] at hk
    obtain ⟨m, e, sub⟩ := ih hk.2
    obtain ⟨d, rfl⟩ := Nat.exists_eq_add_of_le hk.1
    refine ⟨d + m, by rw [e, Nat.add_assoc], ?_⟩
    rw [← List.range'_append_1]
    exact sub.trans (List.sublist_append_right _ _)

/-- the same for both routes interleaved with other rewrites: the executed numbers lie in `[seq, final sequence)` and
    none repeats -/
theorem runMixed_spec (evs : List Ev) : ∀ seq, KeepsSequence seq evs →
    seq ≤ (runMixed seq evs).1 ∧ (∀ x ∈ (runMixed seq evs).2, seq ≤ x ∧ x < (runMixed seq evs).1) ∧
    (runMixed seq evs).2.Nodup := by
  intro seq hk
  obtain ⟨n, e, sub⟩ := runMixed_sublist evs seq hk
  rw [e]
  exact ⟨Nat.le_add_right seq n, fun x hx => List.mem_range'_1.mp (sub.subset hx), sub.nodup List.nodup_range'⟩

/-- **no sequence number is ever used twice**, over any history of transactions of both routes (valid, replayed, out of
    order, batched, tampered, for another chain) interleaved with other rewrites of the account — provided those keep
    the sequence -/
theorem sequence_numbers_used_once (seq : Nat) (evs : List Ev) (h : KeepsSequence seq evs) :
    (runMixed seq evs).2.Nodup := (runMixed_spec evs seq h).2.2

/-- … and the proviso is needed: a rewrite that resets the sequence makes an old signed transaction valid again -/
theorem sequence_reset_counterexample :
    (runMixed 0 [.eth [0], .eth [0], .other 0, .eth [0]]).2 = [0, 0] ∧
    ¬ KeepsSequence 0 [.eth [0], .eth [0], .other 0, .eth [0]] := by
  refine ⟨by decide, ?_⟩
  intro h
  simp [KeepsSequence, ethAccept] at h

theorem execAll_keep (ms : List EMsg) (cur : Nat) (h : ∀ m ∈ ms, m.nonce < cur) : execAll true cur ms = cur :=
  List.foldlRecOn ms (execMsg true) (motive := (· = cur)) rfl fun b hb m hm => by
    subst hb
    fun_cases execMsg true b m
    · exact Nat.max_eq_left (h m hm)
    · contradiction  -- the branch of `keepAdvance = false`
    · rfl

/-- **execution keeps what the ante handler advanced**: after an accepted transaction the sender's sequence is
    seq + (number of messages), whatever mix of calls and contract creations it carries — so every executed nonce lies
    behind the sequence and none of the messages is valid again -/
theorem exec_keeps_ante_sequence (seq : Nat) (ms : List EMsg) (s' : Nat) (h : ethTx true seq ms = some s') :
    s' = seq + ms.length ∧ ∀ m ∈ ms, m.nonce < s' := by
  unfold ethTx at h
  cases ha : ethAccept seq (ms.map (·.nonce)) with
  | none => rw [ha] at h; cases h
  | some a =>
    have hlt : ∀ m ∈ ms, m.nonce < a := fun m hm => ethAccept_lt ha m.nonce (List.mem_map_of_mem hm)
    have hlen := ((ethAccept_iff _ seq a).mp ha).2
    rw [List.length_map] at hlen
    rw [ha, Option.map_some, execAll_keep ms a hlt] at h
    cases h
    exact ⟨hlen, hlt⟩

/-- the code before 37d9750: a creation followed by another message leaves the sequence at the second message's nonce —
    that message, already executed, passes the ante handler again -/
theorem creation_moves_nonce_back_counterexample :
    ethTx false 5 [⟨5, true⟩, ⟨6, false⟩] = some 6 ∧ ethTx false 6 [⟨6, false⟩] = some 7 ∧
    ethTx true 5 [⟨5, true⟩, ⟨6, false⟩] = some 7 ∧ ethTx true 7 [⟨6, false⟩] = none := by decide

/-- the creation branch of ApplyMessageWithConfig has the shape `execMsg true` models (regenerated fact) -/
theorem creation_never_moves_nonce_back : Facts.evmCreateNonceAfter = "max(nonce on entry, msg.Nonce()+1)" := rfl

section Binding
variable {Payload Sig Addr : Type}

/-- `signed a p s`: `s` is a signature the key holder `a` made over payload `p`; `verifies a p s`: what the ante
    handler checks.  Unforgeability: a signature made over `p` does not verify for `a` over another payload. -/
def Unforgeable (signed verifies : Addr → Payload → Sig → Prop) : Prop :=
  ∀ a p p' s, signed a p s → verifies a p' s → p' = p

/-- any change of the signed payload (the payload contains every transaction field, the chain id and the
    nonce / sequence) is not accepted on behalf of the original signer -/
theorem mutation_not_for_signer (signed verifies : Addr → Payload → Sig → Prop)
    (hu : Unforgeable signed verifies) (a : Addr) (p p' : Payload) (s : Sig)
    (hs : signed a p s) (hne : p' ≠ p) : ¬ verifies a p' s :=
  fun hv => hne (hu a p p' s hs hv)

end Binding

/- `mutation_not_for_signer` assumes that the payload determines the transaction; what follows makes that explicit.
A Cosmos transaction as the ante handler sees it, reduced to the fields a third party could change after signing.  The
direct sign mode signs the encoded body and auth info — everything.  The EIP-712 routes rebuild a typed-data document
from the decoded fields; apart from the amino one (see `payload`) that document has no place for a fee granter, a timeout
height (current route) or extension options, so a transaction that sets one of those must be refused, or the field is not
bound by the signature. -/

structure CosTx where
  msgs : Nat          -- the messages (an opaque code)
  memo : Nat
  feeAmount : Nat
  gas : Nat
  timeout : Nat       -- 0 = none
  granter : Nat       -- 0 = none
  extOpts : Nat       -- 0 = none
  deriving Repr, DecidableEq

inductive Route | direct | eip712 | eip712Legacy | eip712Amino
  deriving Repr, DecidableEq

/-- the payload the signature is made over, per route -/
def payload : Route → CosTx → List Nat
  | .direct, t => [t.msgs, t.memo, t.feeAmount, t.gas, t.timeout, t.granter, t.extOpts]
  | .eip712, t => [t.msgs, t.memo, t.feeAmount, t.gas]
  | .eip712Legacy, t => [t.msgs, t.memo, t.feeAmount, t.gas, t.timeout]
  -- amino-JSON sign mode with an EIP-712 signature: the typed data wraps the amino sign document itself, fee granter
  -- and timeout included (extension options are not part of it)
  | .eip712Amino, t => [t.msgs, t.memo, t.feeAmount, t.gas, t.timeout, t.granter]

/-- what a route refuses outright because its payload cannot carry it; `refuseGranter` = the code since the repair -/
def admitted (refuseGranter : Bool) : Route → CosTx → Bool
  | .direct, _ => true
  | .eip712, t => t.timeout == 0 && t.extOpts == 0 && (!refuseGranter || t.granter == 0)
  | .eip712Legacy, t => (!refuseGranter || t.granter == 0)
  | .eip712Amino, t => t.extOpts == 0

/-- **every field is bound**: two transactions a route admits that have the same signed payload are the same
    transaction, up to the legacy route's own extension option (which carries the signature itself) — so changing any
    field either changes the payload (and then `mutation_not_for_signer` applies) or makes the route refuse -/
theorem admitted_payload_injective (r : Route) (t t' : CosTx) (h : admitted true r t = true) (h' : admitted true r t' = true)
    (hp : payload r t = payload r t') (hx : r = .eip712Legacy → t.extOpts = t'.extOpts) : t = t' := by
  cases t; cases t'
  -- per route, `admitted` zeroes exactly the fields the route's `payload` leaves out (the legacy route's `extOpts`: `hx`)
  cases r <;> simp_all [payload, admitted]

/-- before the repair 42eac97 the fee granter was bound on neither EIP-712 route: two admitted transactions with the same
    payload that differ in who pays the fee -/
theorem granter_unbound_counterexample :
    let t : CosTx := { msgs := 1, memo := 0, feeAmount := 5, gas := 9, timeout := 0, granter := 0, extOpts := 0 }
    let t' : CosTx := { t with granter := 7 }
    admitted false .eip712 t = true ∧ admitted false .eip712 t' = true ∧ payload .eip712 t = payload .eip712 t' ∧ t ≠ t' ∧
    admitted true .eip712 t' = false ∧ admitted true .eip712Legacy t' = false := by decide

/-- all three EIP-712 signature paths refuse a transaction that names a fee granter (regenerated fact) — which is what
    `admitted true` models -/
theorem eip712_refuses_fee_granter : Facts.eip712FeeGranter =
    [("eip712.decodeProtobufSignDoc", "granter-refused"), ("eip712.legacyDecodeProtobufSignDoc", "granter-refused"),
     ("ante.LegacyEip712SigVerification.VerifySignature", "granter-refused")] := rfl

theorem eth_sequence_checked_per_message :
    Facts.ethSeqDecoratorShape = "for-each-msg: GetAccount; nonce != sequence → reject; SetSequence(nonce+1)" := rfl

theorem eth_signature_bound_to_chain :
    Facts.ethSigVerifyShape = "MakeSigner(chain config); unprotected rejected unless AllowUnprotectedTxs; signer.Sender; From set from the recovered sender" := rfl

example : ethAccept 5 [5, 6, 7] = some 8 ∧ ethAccept 5 [5, 5] = none ∧ ethAccept 6 [5] = none := by decide

end Haqq.Replay
