/-
  C01 — Deterministic state machine: replicas agree on every block.

  English statement (properties.jsonl):
    Two nodes that start from the same genesis and are fed the same sequence of blocks produce identical
    transaction results, validator updates and application hash after every block.  Nothing outside the block
    inputs (process-local caches, map iteration order, wall-clock time, construction order of the node) may
    influence committed state.

  What a theorem can carry here (level: partial).  Go's map iteration order, goroutine scheduling and the wall
  clock are runtime behaviour no model exhibits; what *is* logic is the canonicalisation the code performs to
  defeat them.  This file proves
    * `commit_sorted_canonical`: flushing the dirty accounts in sorted order gives a result that does not depend
      on the order in which the (map-backed) dirty set was enumerated — although the flush itself is order
      sensitive (`commit_order_matters`: new accounts take consecutive account numbers);
    * over the facts regenerated from the current source: StateDB.Commit iterates `sortedDirties()` and
      `SortedKeys()`; every `range` over a map in consensus code either sits in a function that calls `sort.*` /
      `slices.*` (that much the fact records, not that the ranged values reach the sort) or is one of the listed
      order-insensitive sites; `time.Now()` and `go` statements occur only at the listed non-state sites; the
      Begin/End-blocker and InitGenesis orders are duplicate-free lists over the same module set.
  The replica run (two independently constructed applications fed the same generated blocks) searches for what
  the facts cannot see.
-/
import HaqqModel.Prelude.Basic
import HaqqModel.Generated.Facts

namespace Haqq.C01

/-- the auth keeper as far as a flush can disturb it: account numbers are handed out in order of creation -/
structure AK where
  next : Nat
  num : Nat → Option Nat

/-- SetAccount for an address: a new account takes the next account number -/
def AK.touch (k : AK) (a : Nat) : AK :=
  match k.num a with
  | some _ => k
  | none => { next := k.next + 1, num := upd k.num a (some k.next) }

def flush (k : AK) (order : List Nat) : AK := order.foldl AK.touch k

def le (a b : Nat) : Bool := decide (a ≤ b)

def sortedDirties (enumeration : List Nat) : List Nat := enumeration.mergeSort le

theorem sorted_canonical (l1 l2 : List Nat) (h : l1.Perm l2) : sortedDirties l1 = sortedDirties l2 := by
  unfold sortedDirties
  have htrans : ∀ a b c : Nat, le a b = true → le b c = true → le a c = true := fun _ _ _ h1 h2 =>
    decide_eq_true (Nat.le_trans (of_decide_eq_true h1) (of_decide_eq_true h2))
  have htotal : ∀ a b : Nat, (le a b || le b a) = true := fun a b => by
    simp only [le, Bool.or_eq_true, decide_eq_true_eq]; exact Nat.le_total a b
  apply List.Perm.eq_of_pairwise (le := fun a b => le a b = true)
  · exact fun a b _ _ hab hba => Nat.le_antisymm (of_decide_eq_true hab) (of_decide_eq_true hba)
  · exact List.pairwise_mergeSort htrans htotal l1
  · exact List.pairwise_mergeSort htrans htotal l2
  · exact ((List.mergeSort_perm l1 le).trans h).trans (List.mergeSort_perm l2 le).symm

theorem commit_sorted_canonical (k : AK) (l1 l2 : List Nat) (h : l1.Perm l2) :
    flush k (sortedDirties l1) = flush k (sortedDirties l2) := by
  rw [sorted_canonical l1 l2 h]

theorem commit_order_matters :
    let k : AK := { next := 9, num := fun _ => none }
    (flush k [1, 2]).num 1 = some 9 ∧ (flush k [2, 1]).num 1 = some 10 ∧ [1, 2].Perm [2, 1] :=
  ⟨by decide, by decide, List.Perm.swap 2 1 []⟩

/-- map ranges whose body is order-insensitive, with the reason -/
def orderInsensitive : List String :=
  [ -- copies the map into a fresh map
    "app/app.go::GetMaccPerms::maccPerms",
    -- one-off v1.7.5 upgrade handler: the collected redeem messages are sorted before they are executed
    "app/upgrades/v1.7.5/handler.go::processAccount::storage" ]

def mapRangeOk (s : String × String) : Bool := s.2 == "sorted" || orderInsensitive.contains s.1

/-- time.Now() only feeds telemetry (`ModuleMeasureSince` / `MeasureSince`) -/
def timeNowAllowed : List (String × String) :=
  [("x/coinomics/keeper/abci.go", "Keeper.EndBlocker"), ("x/epochs/keeper/abci.go", "Keeper.BeginBlocker"),
   ("x/ucdao/module.go", "AppModule.InitGenesis")]

/-- goroutines: the TPS counter (touches no store), the v1.7.5 upgrade's collection workers (appends under a mutex —
    `upgrade_workers_serialised` — and results sorted before use), the tracing query's timeout watchdog (query path) -/
def goAllowed : List (String × String) :=
  [("app/app.go", "NewHaqq"), ("app/upgrades/v1.7.5/handler.go", "TurnOffLiquidVesting"),
   ("x/evm/keeper/grpc_query.go", "Keeper.traceTx")]

/-- keeps the `… = []` and `….all …` facts below from being true because the typed sweep loaded nothing -/
theorem packages_loaded : Facts.determinismPackagesLoaded = true := rfl

theorem commit_iterates_sorted :
    Facts.statedbCommitRangesSortedDirties = true ∧ Facts.statedbCommitRangesSortedKeys = true := ⟨rfl, rfl⟩

theorem no_unsorted_map_range : Facts.mapRangeSites.all mapRangeOk = true := by decide +kernel

theorem no_wallclock_in_state : Facts.timeNowSites.all (fun s => timeNowAllowed.contains s) = true := by decide +kernel

/-- no calendar field (year, month, day, …) is read from a time value that is in the host's time zone: values built
    by `time.Unix*` / `time.Now` are, until `.UTC()` is applied; `ctx.BlockTime()` is UTC -/
theorem no_local_time_reads : Facts.localTimeReads = [] := rfl

/-- the v1.7.5 upgrade's workers, see `goAllowed`; before the repair 257c969 the appends were unsynchronised -/
theorem upgrade_workers_serialised : Facts.upgrade175WorkersLockAppends = true := rfl

theorem goroutines_listed : Facts.goStmtSites.all (fun s => goAllowed.contains s) = true := by decide +kernel

def nodup (l : List String) : Bool :=
  match l with
  | [] => true
  | x :: xs => !xs.contains x && nodup xs

def sameSet (a b : List String) : Bool := a.all (fun x => b.contains x) && b.all (fun x => a.contains x)

theorem orders_wellformed :
    nodup Facts.appOrderBeginBlockers = true ∧ nodup Facts.appOrderEndBlockers = true ∧
    nodup Facts.appOrderInitGenesis = true ∧
    sameSet Facts.appOrderBeginBlockers Facts.appOrderEndBlockers = true ∧
    sameSet Facts.appOrderBeginBlockers Facts.appOrderInitGenesis = true := by decide +kernel

end Haqq.C01
