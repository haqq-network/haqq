/-
  C08 — Locked and unvested coins cannot leave a vesting account.

  English statement (properties.jsonl):
    At any block time, a clawback-vesting account can transfer out, pay as fee, convert, deposit or bridge
    at most its spendable balance: after any successful transaction other than a staking delegation its
    balance of each vesting denomination is still at least the locked amount
    max(original - unlockedVested - trackedDelegated, unvested).  Unvested coins can additionally not be
    delegated, whether the delegation is requested by a Cosmos message, through a grant, or through the
    staking precompile.

  Formalisation: stated for spend attempts by the account, per denomination in use (d < M).  Every debit
  path of the SDK bank keeper runs `subUnlockedCoins` (balance − LockedCoins ≥ amount); delegations run
  the Haqq staking wrapper's guard (balance − unvested ≥ amount).  That every path of the list reaches one
  of the two guards is established by the correspondence run (each path is attempted around the
  spendable boundary on the real application), not by the model.
-/
import HaqqModel.Props.C09
import HaqqModel.Props.C08Model

namespace Haqq.Vest
open Haqq.Sched

/-- LockedCoins in numbers (`u` unlocked, `v` vested, `D` delegated): the SafeSub cannot fail, and subtracting a minimum
    gives the maximum of the differences -/
theorem locked_arith (o u v D : Nat) (hv : v ≤ o) :
    min u v + min D (v - min u v) ≤ o ∧
    o - (min u v + min D (v - min u v)) = max (o - min u v - D) (o - v) := by
  have hm : min u v ≤ v := Nat.min_le_right ..
  constructor
  · have := Nat.add_le_add_left (Nat.min_le_right D (v - min u v)) (min u v)
    rw [Nat.add_sub_cancel' hm] at this
    exact Nat.le_trans this hv
  · rw [Nat.sub_add_eq, ← Nat.sub_max_sub_left, Nat.sub_sub_sub_cancel_right hm]

theorem locked_arith_antitone (o D : Nat) {u₁ u₂ v₁ v₂ : Nat} (hu : u₁ ≤ u₂) (hv : v₁ ≤ v₂) :
    max (o - min u₂ v₂ - D) (o - v₂) ≤ max (o - min u₁ v₁ - D) (o - v₁) ∧ max (o - min u₁ v₁ - D) (o - v₁) ≤ o :=
  have hm : min u₁ v₁ ≤ min u₂ v₂ :=
    Nat.le_min.2 ⟨Nat.le_trans (Nat.min_le_left ..) hu, Nat.le_trans (Nat.min_le_right ..) hv⟩
  ⟨Nat.max_le.2 ⟨Nat.le_trans (Nat.sub_le_sub_right (Nat.sub_le_sub_left hm o) D) (Nat.le_max_left ..),
      Nat.le_trans (Nat.sub_le_sub_left hv o) (Nat.le_max_right ..)⟩,
   Nat.max_le.2 ⟨Nat.le_trans (Nat.sub_le ..) (Nat.sub_le ..), Nat.sub_le ..⟩⟩

/-- the formula holds in every denomination, in use or not: where the SafeSub is not checked it cannot fail either -/
theorem lockedCoins_eq (M : Nat) (a : Account) (hv : AccValid a) (t : Int) (d : Nat) :
    a.lockedCoins M t d =
      max (a.original d - a.unlockedVested t d - (a.delegatedFree d + a.delegatedVesting d)) (a.unvested t d) := by
  have h (d : Nat) := locked_arith (a.original d) (a.unlocked t d) (a.vested t d)
    (a.delegatedFree d + a.delegatedVesting d) (read_le_total a.start a.endT a.vesting a.original t d hv.vesting)
  fun_cases Account.lockedCoins M a t with
  | case1 => exact (h d).2
  | case2 _ _ hg => exact absurd ((Amt.allLE_iff ..).2 fun d _ => (h d).1) hg  -- `hg`: the SafeSub would fail

/-- `lockedCoins_eq` at a denomination in use, the formula as the property has it (`hd` is not needed) -/
theorem locked_eq_max (M : Nat) (a : Account) (hv : AccValid a) (t : Int) (d : Nat) (hd : d < M) :
    a.lockedCoins M t d =
      max (a.original d - a.unlockedVested t d - (a.delegatedFree d + a.delegatedVesting d)) (a.unvested t d) :=
  lockedCoins_eq M a hv t d

theorem lockedCoins_antitone (M : Nat) (a : Account) (hv : AccValid a) (t1 t2 : Int) (h : t1 ≤ t2) (d : Nat) :
    a.lockedCoins M t2 d ≤ a.lockedCoins M t1 d ∧ a.lockedCoins M t1 d ≤ a.original d := by
  rw [lockedCoins_eq M a hv t1 d, lockedCoins_eq M a hv t2 d]
  exact locked_arith_antitone _ _ (schedule_monotone a.start a.endT a.lockup a.original t1 t2 d hv.lockup h)
    (schedule_monotone a.start a.endT a.vesting a.original t1 t2 d hv.vesting h)

/-- `lockedCoins_antitone` at a denomination in use (`hd` is not needed) -/
theorem locked_antitone (M : Nat) (a : Account) (hv : AccValid a) (t1 t2 : Int) (h : t1 ≤ t2) (d : Nat) (hd : d < M) :
    a.lockedCoins M t2 d ≤ a.lockedCoins M t1 d ∧ a.lockedCoins M t1 d ≤ a.original d :=
  lockedCoins_antitone M a hv t1 t2 h d

/-- **a successful spend leaves at least the locked amount**, whatever path reached the bank debit -/
theorem debit_guard (bal locked amt bal' : Nat) (h : bankDebit bal locked amt = some bal') :
    locked ≤ bal' ∧ bal' + amt = bal := by
  revert h
  fun_cases bankDebit bal locked amt with
  | case1 hg =>
    rintro ⟨⟩
    exact ⟨Nat.le_sub_of_add_le (Nat.add_le_of_le_sub' hg.1 hg.2),
      Nat.sub_add_cancel (Nat.le_trans hg.2 (Nat.sub_le ..))⟩
  | case2 => nofun

/-- **unvested coins cannot be delegated**: a delegation that passes the wrapper's guard leaves at least the
    unvested amount on the account (or was a zero delegation) -/
theorem delegate_guard (bal unvested amt : Nat) (h : delegateGuard bal unvested amt = true) (hpos : 0 < amt) :
    unvested ≤ bal - amt ∧ amt ≤ bal :=
  have h : amt ≤ bal - unvested := of_decide_eq_true h
  -- a positive amount within `bal - unvested` shows that this subtraction was not truncated
  have hu : unvested ≤ bal := Nat.le_of_lt (Nat.lt_of_sub_pos (Nat.lt_of_lt_of_le hpos h))
  ⟨Nat.le_sub_of_add_le (Nat.add_le_of_le_sub' hu h), Nat.le_trans h (Nat.sub_le ..)⟩

/-- one-denomination state of a vesting account for the spend history -/
structure VState where
  acct : Account
  bal : Nat
  now : Int

inductive VOp
  | spend (amt : Nat)              -- any debit path (send, multi-send, fee, deposit, conversion, EVM value …)
  | receive (amt : Nat)
  | delegate (amt : Nat)           -- message, grant or precompile: all go through the wrapper's guard
  /-- completed unbonding: coins return, tracking is reduced.  The SDK's `TrackUndelegation` takes from `DelegatedFree`
      first and the rest from `DelegatedVesting`; the model step reduces `DelegatedFree` only, which is the Go step when
      `delegatedVesting d = 0` — why `vrun_inv` carries that hypothesis although its proof does not need it -/
  | undelegate (amt : Nat)
  | advance (dt : Nat)

def lockedAt (M d : Nat) (s : VState) : Nat := s.acct.lockedCoins M s.now d

def vstep (M d : Nat) (s : VState) : VOp → VState
  | .spend amt =>
    match bankDebit s.bal (lockedAt M d s) amt with
    | some b => { s with bal := b }
    | none => s
  | .receive amt => { s with bal := s.bal + amt }
  | .delegate amt =>
    if 0 < amt ∧ delegateGuard s.bal (s.acct.unvested s.now d) amt = true then
      -- bank DelegateCoins: balance −amt; TrackDelegation: DelegatedFree +amt
      { s with bal := s.bal - amt,
               acct := { s.acct with delegatedFree := fun x => if x = d then s.acct.delegatedFree x + amt else s.acct.delegatedFree x } }
    else s
  | .undelegate amt =>
    let df := s.acct.delegatedFree d
    let take := min amt df
    { s with bal := s.bal + amt,
             acct := { s.acct with delegatedFree := fun x => if x = d then df - take else s.acct.delegatedFree x } }
  | .advance dt => { s with now := s.now + dt }

theorem valid_of_deleg_change (a : Account) (f : Amt) (hv : AccValid a) : AccValid { a with delegatedFree := f } :=
  ⟨hv.lockup, hv.vesting⟩

/-- the schedules do not mention the delegation fields, so tracking a delegation changes only the `D` of the formula -/
theorem locked_setDelegatedFree (M : Nat) (a : Account) (hv : AccValid a) (f : Amt) (t : Int) (d : Nat) :
    ({ a with delegatedFree := f } : Account).lockedCoins M t d =
      max (a.original d - a.unlockedVested t d - (f d + a.delegatedVesting d)) (a.unvested t d) :=
  lockedCoins_eq M _ (valid_of_deleg_change a f hv) t d

/-- one step keeps balance ≥ locked, whatever is tracked in `delegatedVesting`: the formula sees only the sum of the two
    delegation fields -/
theorem vstep_inv (M d : Nat) (s : VState) (op : VOp) (hv : AccValid s.acct) (hi : lockedAt M d s ≤ s.bal) :
    lockedAt M d (vstep M d s op) ≤ (vstep M d s op).bal ∧ AccValid (vstep M d s op).acct := by
  have hi' := hi
  rw [lockedAt, lockedCoins_eq M _ hv _ d] at hi'
  obtain ⟨h1, h2⟩ := Nat.max_le.1 hi'
  fun_cases vstep M d s op with
  | case1 amt b hb => exact ⟨(debit_guard _ _ _ _ hb).1, hv⟩ -- spend, accepted
  | case3 amt => exact ⟨Nat.le_trans hi (Nat.le_add_right ..), hv⟩ -- receive
  | case4 amt hg => -- delegate, accepted
    refine ⟨?_, valid_of_deleg_change _ _ hv⟩
    simp only [lockedAt]
    rw [locked_setDelegatedFree M _ hv _ _ d, if_pos rfl, Nat.add_right_comm, Nat.sub_add_eq]
    have key : s.acct.unvested s.now d ≤ s.bal - amt := (delegate_guard _ _ _ hg.2 hg.1).1
    exact Nat.max_le.2 ⟨Nat.sub_le_sub_right h1 amt, key⟩
  | case6 amt df take => -- undelegate
    refine ⟨?_, valid_of_deleg_change _ _ hv⟩
    simp only [lockedAt]
    rw [locked_setDelegatedFree M _ hv _ _ d, if_pos rfl, ← Nat.sub_add_comm (Nat.min_le_right ..)]
    -- what comes back from the delegation, `min amt df`, is at most what the balance gains
    have key (L D : Nat) (h : L - D ≤ s.bal) : L - (D - min amt df) ≤ s.bal + amt :=
      Nat.le_trans (sub_sub_le_add ..) (Nat.add_le_add h (Nat.min_le_left ..))
    exact Nat.max_le.2 ⟨key _ _ h1, Nat.le_trans h2 (Nat.le_add_right ..)⟩
  | case7 dt => -- advance
    exact ⟨Nat.le_trans (lockedCoins_antitone M s.acct hv s.now (s.now + dt)
      (Int.le_add_of_nonneg_right (Int.natCast_nonneg dt)) d).1 hi, hv⟩
  | _ => exact ⟨hi, hv⟩ -- a refused spend or delegation leaves the state as it was

def vrun (M d : Nat) (s : VState) (ops : List VOp) : VState := ops.foldl (vstep M d) s

/-- **history invariant**: starting from balance ≥ locked, every sequence of spend attempts, receipts,
    delegations, undelegations and time steps keeps balance ≥ locked — so the account never has less than
    max(original − unlockedVested − trackedDelegated, unvested) after any of them (`hd` is not needed) -/
theorem vrun_inv (M d : Nat) (hd : d < M) (ops : List VOp) : ∀ (s : VState), AccValid s.acct →
    s.acct.delegatedVesting d = 0 → lockedAt M d s ≤ s.bal →
    lockedAt M d (vrun M d s ops) ≤ (vrun M d s ops).bal := by
  intro s hv _ hi
  exact (List.foldlRecOn ops (vstep M d) (motive := fun s => lockedAt M d s ≤ s.bal ∧ AccValid s.acct) ⟨hi, hv⟩
    fun s h op _ => vstep_inv M d s op h.2 h.1).1

/-- `lockedCoins` and `bankDebit` evaluated on a concrete account (100 locked until +500, vested at once; 30 delegated)
    around the spendable boundary at t = 1200; `AccValid` of that account is not exhibited -/
example :
    let amt (x : Nat) : Amt := fun d => if d = 0 then x else 0
    let a : Account := { (newAccount 7 1000 (amt 100) [⟨500, amt 100⟩] [⟨0, amt 100⟩]) with delegatedFree := amt 30 }
    a.lockedCoins 1 1200 0 = 70 ∧ a.lockedCoins 1 1600 0 = 0 ∧
    bankDebit 120 (a.lockedCoins 1 1200 0) 50 = some 70 ∧ bankDebit 120 (a.lockedCoins 1 1200 0) 51 = none := by
  decide +kernel

/-- **becoming a plain account loses nothing**: when the conversion back is accepted at time t, the locked amount of the
    vesting account is zero at t and at every later time, whatever is delegated — forgetting the schedules removes no
    restriction -/
theorem unconvert_loses_nothing (M : Nat) (a : Account) (hv : AccValid a) (t t' : Int) (h : t ≤ t') (d : Nat) (hd : d < M)
    (hg : unconvertGuard M a t = true) : a.lockedCoins M t' d = 0 := by
  simp only [unconvertGuard, Bool.and_eq_true, Amt.isZero_iff] at hg
  have h1 : a.original d - a.vested t d = 0 := hg.1 d hd
  have h2 : a.original d - a.unlocked t d = 0 := hg.2 d hd
  have hm := (locked_antitone M a hv t t' h d hd).1
  -- at t everything has vested and unlocked: o - min u v = max (o - u) (o - v) = 0
  rw [lockedCoins_eq M a hv t d, show a.unvested t d = 0 from h1, Account.unlockedVested, Amt.min_apply,
    ← Nat.sub_max_sub_left, h1, h2, Nat.max_self, Nat.zero_sub, Nat.max_self] at hm
  exact Nat.le_zero.1 hm

/-- the bank's LockedCoins is not the right test: with everything vested, the lockup still running and all of it
    delegated, LockedCoins reads zero (delegated coins are not counted), yet the grant is locked up — the guard
    refuses; an account made plain at that point could undelegate and spend 100 locked coins -/
theorem bank_locked_is_not_the_test :
    let amt (x : Nat) : Amt := fun d => if d = 0 then x else 0
    let a : Account := { (newAccount 7 1000 (amt 100) [⟨7000000, amt 100⟩] [⟨0, amt 100⟩]) with delegatedFree := amt 100 }
    a.lockedCoins 1 1005 0 = 0 ∧ unconvertGuard 1 a 1005 = false ∧
    ({ a with delegatedFree := amt 0 } : Account).lockedCoins 1 1005 0 = 100 := by
  decide +kernel

end Haqq.Vest
