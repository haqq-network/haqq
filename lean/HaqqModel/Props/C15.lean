/-
  C15 — Module accounting invariants hold after every block.

  English statement (properties.jsonl):
    After every block … the sum of all account balances equals the recorded supply per denomination, the bonded
    and not-bonded pools match validator and unbonding records, delegator shares add up, the distribution module
    can pay all outstanding rewards plus the community pool, and governance deposits are fully held.  Haqq's own
    modules (vesting, liquid vesting, DAO, ERC20, coinomics, the redirected burns) never break them.

  Level: partial.  Proved here: the part that is Haqq's — every coin movement its keepers make is a sequence of
  bank primitives (regenerated fact: the complete list of bank-keeper methods they call), and every history of
  those primitives, including the EVM keeper's SetBalance (mint / burn of the difference, C02) and the redirected
  BurnCoins (C14), preserves `Σ balances = supply` (`run_supply_inv`) and `distribution balance ≥ outstanding +
  community pool` for the redirect (`redirect_keeps_distr`).  Not modelled: the internals of the SDK's staking,
  distribution and governance invariants; they are evaluated on the real application after every block of
  generated histories by the correspondence run (CrisisKeeper routes).
-/
import HaqqModel.Prelude.Basic
import HaqqModel.Generated.Facts

namespace Haqq.C15

/-- the bank as far as the supply invariant sees it (one denomination; every primitive is pointwise) -/
structure Bank where
  bal : Nat → Nat
  supply : Nat
  pool : Nat                -- distribution FeePool.CommunityPool
  outstanding : Nat         -- distribution outstanding rewards

def distr : Nat := 0

inductive Op
  | mint (m x : Nat)               -- MintCoins to a module account
  | burn (m x : Nat)               -- BurnCoins from a module account that is not redirected
  | burnRedirected (m x : Nat)     -- Haqq's BurnCoins override: the coins go to the distribution module's pool
  | send (a b x : Nat)             -- SendCoins / …ModuleToAccount / …AccountToModule / …ModuleToModule / Delegate…
  | setBalance (a v : Nat)         -- EVM keeper SetBalance: mint or burn the difference

/-- a primitive either applies or fails without effect -/
def step (N : Nat) (s : Bank) : Op → Bank
  | .mint m x => if m < N then { s with bal := upd s.bal m (s.bal m + x), supply := s.supply + x } else s
  | .burn m x =>
    if m < N ∧ x ≤ s.bal m then { s with bal := upd s.bal m (s.bal m - x), supply := s.supply - x } else s
  | .burnRedirected m x =>
    if m < N ∧ distr < N ∧ x ≤ s.bal m then
      let b1 := upd s.bal m (s.bal m - x)
      { s with bal := upd b1 distr (b1 distr + x), pool := s.pool + x }
    else s
  | .send a b x =>
    if a < N ∧ b < N ∧ x ≤ s.bal a then
      let b1 := upd s.bal a (s.bal a - x)
      { s with bal := upd b1 b (b1 b + x) }
    else s
  | .setBalance a v =>
    if a < N then { s with bal := upd s.bal a v, supply := s.supply + v - s.bal a } else s

def SupplyInv (N : Nat) (s : Bank) : Prop := sumTo s.bal N = s.supply
def DistrInv (s : Bank) : Prop := s.outstanding + s.pool ≤ s.bal distr

theorem step_supply_inv (N : Nat) (s : Bank) (op : Op) (h : SupplyInv N s) : SupplyInv N (step N s op) := by
  unfold SupplyInv at *
  -- per primitive, in the order of `Op`: the branch that applies, then the one that fails and leaves `s`
  fun_cases step N s op with
  | case1 m x hm => exact (sumTo_upd_add s.bal m x N hm).trans (congrArg (· + x) h)
  | case3 m x hc => exact h ▸ Nat.eq_sub_of_add_eq (sumTo_upd_sub s.bal m x N hc.1 hc.2)
  | case5 m x hc => exact (sumTo_move s.bal m distr x N hc.1 hc.2.1 hc.2.2).trans h
  | case7 a b x hc => exact (sumTo_move s.bal a b x N hc.1 hc.2.1 hc.2.2).trans h
  | case9 a v ha => exact h ▸ Nat.eq_sub_of_add_eq (sumTo_upd s.bal a v N ha)
  | case2 | case4 | case6 | case8 | case10 => exact h

/-- **Σ balances = supply after every history of bank primitives** (including the EVM's SetBalance and the
    redirected burn) -/
theorem run_supply_inv (N : Nat) (ops : List Op) : ∀ s, SupplyInv N s → SupplyInv N (ops.foldl (step N) s) :=
  fun _ h => List.foldlRecOn ops (step N) h fun s hs op _ => step_supply_inv N s op hs

/-- the redirected burn keeps the distribution module able to pay outstanding rewards plus the community pool
    (`distr` is never the burning account: the redirected accounts are gov and the staking pools, C14) -/
theorem redirect_keeps_distr (N : Nat) (s : Bank) (m x : Nat) (hm : m ≠ distr) (h : DistrInv s) :
    DistrInv (step N s (.burnRedirected m x)) := by
  unfold DistrInv at *
  simp only [step]; split
  · simp only [upd_same, upd_other (Ne.symm hm)]
    rw [← Nat.add_assoc]
    exact Nat.add_le_add_right h x
  · exact h

example : SupplyInv 3 { bal := fun a => if a = 1 then 5 else 0, supply := 5, pool := 0, outstanding := 0 } := by
  simp [SupplyInv, sumTo]

/-- the bank-keeper methods Haqq's own code may call: reads, the primitives modelled above, metadata -/
def allowedBankMethods : List String :=
  [ -- reads
    "GetBalance", "GetAllBalances", "GetSupply", "HasSupply", "HasBalance", "SpendableCoins", "LockedCoins",
    "GetDenomMetaData", "IterateTotalSupply", "IterateAccountBalances", "IterateAllBalances", "IsSendEnabledCoin",
    "IsSendEnabledCoins", "BlockedAddr", "GetParams", "SpendableCoin", "GetAccountsBalances", "GetPaginatedTotalSupply",
    -- movements (send / mint / burn / delegate): the primitives of `Op`
    "SendCoins", "SendCoinsFromModuleToAccount", "SendCoinsFromAccountToModule", "SendCoinsFromModuleToModule",
    "MintCoins", "BurnCoins", "DelegateCoins", "UndelegateCoins", "DelegateCoinsFromAccountToModule",
    "UndelegateCoinsFromModuleToAccount", "InputOutputCoins",
    -- metadata, no coins
    "SetDenomMetaData" ]

theorem haqq_moves_coins_only_through_primitives :
    Facts.bankMethodsUsedByHaqq.all (fun m => allowedBankMethods.contains m) = true := by decide +kernel

/-- the "determinism" fact records that go/packages loaded every package, so the sweep's list of bank methods is not short
    (or empty) for lack of input -/
theorem bank_facts_loaded : Facts.determinismPackagesLoaded = true ∧ Facts.bankMethodsUsedByHaqq ≠ [] := by decide

end Haqq.C15
