/-
  C04 — Precompiles act only for the signer or caller, within grants.

  English statement (properties.jsonl):
    A state-changing precompile call changes an account's funds, stake, … only if that account is the transaction
    signer or the immediate calling contract; any other account can at most receive.  When the caller is not the
    signer, staking and ICS-20 operations additionally require a live grant from the signer to that caller
    covering the message type (and validator/channel) and the amount, and a limited grant is reduced by exactly
    the amount used and can never be overspent.

  Theorems over `Model/Authz.lean`: the staking family.  The decision logic of the other families is exercised by the
  correspondence run only.
-/
import HaqqModel.Prelude.Basic
import HaqqModel.Model.Authz
import HaqqModel.Generated.Facts

namespace Haqq.Authz

/-- `accept` as a proposition: the lemma through which every theorem below uses it -/
theorem accept_eq_some {g : Grant} {val amt : Nat} {g' : Option Grant} : accept g val amt = some g' ↔
    g.allow.contains val = true ∧
    match g.limit with
    | none => g' = some g
    | some l => amt ≤ l ∧
        ((l - amt = 0 ∧ g' = none) ∨ (l - amt ≠ 0 ∧ g' = some { g with limit := some (l - amt) })) := by
  unfold accept
  cases g.allow.contains val
  · simp only [Bool.not_false, if_true, reduceCtorEq, Bool.false_eq_true, false_and]   -- outside the allow-list
  -- inside it: each `if` of the limit test as a disjunction (`ite_eq_iff`), of which the `none` alternatives drop out
  cases g.limit <;>
    simp only [Bool.not_true, Bool.false_eq_true, if_false, ite_eq_iff, reduceCtorEq, Option.some.injEq, Nat.not_lt,
      ne_eq, eq_comm (a := g'), and_false, true_and, false_or]

theorem stakingCall_ok (c : Call) (g : Option Grant) (d : Nat) (g' : Option Grant) (h : stakingCall c g = .ok d g') :
    d = c.delegator ∧ (c.caller = c.delegator ∨ c.origin = c.delegator) ∧
    ((c.caller = c.origin ∧ g' = g) ∨
     (c.caller ≠ c.origin ∧ ∃ gr, g = some gr ∧ exceeds gr.limit c.amt = false ∧ accept gr c.val c.amt = some g')) := by
  -- the guard on the delegator, passed
  have hd : ¬(!(c.caller == c.delegator) && c.origin != c.delegator) = true →
      c.caller = c.delegator ∨ c.origin = c.delegator := by
    simp only [Bool.and_eq_true, Bool.not_eq_eq_eq_not, Bool.not_true, beq_eq_false_iff_ne, ne_eq, bne_iff_ne, not_and,
      Decidable.not_not, Decidable.or_iff_not_imp_left, imp_self]
  revert h
  -- of the seven branches of `stakingCall` two succeed: the owner's own call, and a grantee's that the grant accepts
  fun_cases stakingCall c g with
  | case3 _ _ _ _ h2 ho => rintro ⟨⟩; exact ⟨rfl, hd h2, .inl ⟨beq_iff_eq.mp ho, rfl⟩⟩
  | case7 _ _ _ h2 ho gr hex g' hacc =>
    rintro ⟨⟩; exact ⟨rfl, hd h2, .inr ⟨mt beq_iff_eq.mpr ho, gr, rfl, Bool.eq_false_iff.mpr hex, hacc⟩⟩
  | case1 | case2 | case4 | case5 | case6 => nofun

theorem grant_of_ok {c : Call} {g : Option Grant} {d : Nat} {g' : Option Grant} (hco : c.caller ≠ c.origin)
    (h : stakingCall c g = .ok d g') : ∃ gr, g = some gr ∧ accept gr c.val c.amt = some g' := by
  obtain ⟨_, _, ⟨h3, _⟩ | ⟨_, gr, hg, _, hacc⟩⟩ := stakingCall_ok c g d g' h
  · exact absurd h3 hco
  · exact ⟨gr, hg, hacc⟩

/-- whoever's coins or stake the message moves is the signer or the immediate caller -/
theorem affected_is_signer_or_caller (c : Call) (g : Option Grant) (d : Nat) (g' : Option Grant)
    (h : stakingCall c g = .ok d g') : d = c.origin ∨ d = c.caller := by
  obtain ⟨rfl, h1 | h2, _⟩ := stakingCall_ok c g d g' h
  · exact .inr h1.symm
  · exact .inl h2.symm

/-- when the caller is not the signer a successful call had a grant that covers validator and amount -/
theorem needs_grant (c : Call) (g : Option Grant) (d : Nat) (g' : Option Grant) (hco : c.caller ≠ c.origin)
    (h : stakingCall c g = .ok d g') :
    ∃ gr, g = some gr ∧ gr.allow.contains c.val = true ∧ (∀ l, gr.limit = some l → c.amt ≤ l) := by
  obtain ⟨gr, hg, hacc⟩ := grant_of_ok hco h
  obtain ⟨hv, hlim⟩ := accept_eq_some.mp hacc
  refine ⟨gr, hg, hv, fun l hl => ?_⟩
  rw [hl] at hlim
  exact hlim.1

/-- a limited grant is reduced by exactly the amount used (and deleted when it reaches zero) -/
theorem limit_exact (c : Call) (gr : Grant) (l d : Nat) (g' : Option Grant) (hco : c.caller ≠ c.origin)
    (hl : gr.limit = some l) (h : stakingCall c (some gr) = .ok d g') :
    c.amt ≤ l ∧ ((l - c.amt = 0 ∧ g' = none) ∨ (l - c.amt ≠ 0 ∧ g' = some { gr with limit := some (l - c.amt) })) := by
  obtain ⟨_, hg, hacc⟩ := grant_of_ok hco h
  cases hg
  have := (accept_eq_some.mp hacc).2
  rwa [hl] at this

theorem unlimited_unchanged (c : Call) (gr : Grant) (d : Nat) (g' : Option Grant) (hco : c.caller ≠ c.origin)
    (hl : gr.limit = none) (h : stakingCall c (some gr) = .ok d g') : g' = some gr := by
  obtain ⟨_, hg, hacc⟩ := grant_of_ok hco h
  cases hg
  have := (accept_eq_some.mp hacc).2
  rwa [hl] at this

/-- a validator outside the allow-list is refused for limited and unlimited grants alike -/
theorem not_in_allowlist_rejected (c : Call) (gr : Grant) (hco : c.caller ≠ c.origin)
    (hv : gr.allow.contains c.val = false) : stakingCall c (some gr) = .reject := by
  cases hres : stakingCall c (some gr) with
  | reject => rfl
  | ok d g' =>
    obtain ⟨_, hg, hacc⟩ := grant_of_ok hco hres
    cases hg
    rw [(accept_eq_some.mp hacc).1] at hv; cases hv

theorem third_party_rejected (c : Call) (g : Option Grant) (h1 : c.delegator ≠ c.origin) (h2 : c.delegator ≠ c.caller) :
    stakingCall c g = .reject := by
  cases hres : stakingCall c g with
  | reject => rfl
  | ok d g' =>
    obtain ⟨_, h | h, _⟩ := stakingCall_ok c g d g' hres
    · exact absurd h.symm h2
    · exact absurd h.symm h1

/-- ghost ledger of one grant slot: what was granted since the last approval, what was spent since then -/
structure Ledger where
  g : Option Grant
  granted : Int      -- approved amount + increases − decreases since the last approval
  spent : Int        -- accepted spends since the last approval

/-- the books move only when an accepted increase / decrease / spend found a limited grant in the slot: a spend under an
    unlimited grant is not counted, and `LInv` claims nothing of it -/
def lstep (s : Ledger) (op : AOp) : Ledger :=
  let r := astep s.g op
  match op with
  | .approve (some a) _ => if a = 0 then { g := r.1, granted := 0, spent := 0 } else { g := r.1, granted := a, spent := 0 }
  | .approve none _ => { g := r.1, granted := 0, spent := 0 }
  | .increase x => if r.2 ∧ (s.g.bind (·.limit)).isSome then { s with g := r.1, granted := s.granted + x } else { s with g := r.1 }
  | .decrease x => if r.2 ∧ (s.g.bind (·.limit)).isSome then { s with g := r.1, granted := s.granted - x } else { s with g := r.1 }
  | .revoke => { g := r.1, granted := 0, spent := 0 }
  | .spend _ amt =>
    if r.2 ∧ (s.g.bind (·.limit)).isSome then { g := r.1, granted := s.granted, spent := s.spent + amt }
    else { s with g := r.1 }

/-- for a limited grant: remaining limit + spent = granted.  A grant that is used up is deleted (`accept` answers
    Delete at limit 0), so the empty slot carries the same equation with limit 0: spent = granted -/
def LInv (s : Ledger) : Prop :=
  match s.g with
  | some gr => (match gr.limit with
      | some l => (l : Int) + s.spent = s.granted
      | none => True)
  | none => s.spent = s.granted ∨ (s.spent = 0 ∧ s.granted = 0)

/-- the limit pre-check of CheckAuthzAndAllowanceForGranter never decides a spend: what it refuses, `accept` refuses too -/
theorem astep_spend (gr : Grant) (val amt : Nat) : astep (some gr) (.spend val amt) =
    match accept gr val amt with
    | none => (some gr, false)
    | some g' => (g', true) := by
  rw [astep]
  split
  · next he =>
    cases hl : gr.limit with
    | none => rw [hl] at he; cases he
    | some l =>
      rw [hl, exceeds, decide_eq_true_eq] at he
      simp only [accept, hl, if_pos he, ite_self]
  · rfl

theorem lstep_inv (s : Ledger) (op : AOp) (h : LInv s) : LInv (lstep s op) := by
  obtain ⟨g, granted, spent⟩ := s
  cases op with
  -- approve and revoke reset the books to the new slot
  | approve amt allow =>
    rcases amt with _ | _ | a
    · simp only [LInv, lstep, astep]                                                -- unlimited
    · simp only [LInv, lstep, astep, if_true, and_self, or_self]                    -- amount 0 deletes
    · simp only [LInv, lstep, astep, if_neg (Nat.succ_ne_zero a), Int.add_zero]     -- a fresh limit
  | revoke => simp only [LInv, lstep, astep, and_self, or_self]
  -- the other three move the limit and the books by the same amount, and only on a limited grant: an empty or
  -- unlimited slot, and a refused operation, leave everything `LInv` reads as it was
  | increase x =>
    rcases g with _ | ⟨_ | l, al⟩
    · exact h
    · trivial
    · simp only [LInv, lstep, astep, Option.bind_some, Option.isSome_some, and_self, if_true, Int.natCast_add] at h ⊢
      lia
  | decrease x =>
    rcases g with _ | ⟨_ | l, al⟩
    · exact h
    · trivial
    · by_cases hlt : l < x
      · simpa only [LInv, lstep, astep, if_pos hlt, Bool.false_eq_true, false_and, if_false] using h    -- refused
      · simp only [LInv, lstep, astep, if_neg hlt, Option.bind_some, Option.isSome_some, and_self, if_true] at h ⊢
        lia
  | spend val amt =>
    rcases g with _ | gr
    · exact h
    · simp only [lstep, astep_spend]
      cases hacc : accept gr val amt with
      | none => exact h
      | some g' =>
        have hg' := (accept_eq_some.mp hacc).2
        rcases gr with ⟨_ | l, al⟩
        · obtain rfl : g' = some _ := hg'
          trivial
        · simp only [LInv, Option.bind_some, Option.isSome_some, and_self, if_true] at h hg' ⊢
          -- used up and deleted, or reduced
          rcases hg' with ⟨hle, ⟨hz, rfl⟩ | ⟨hz, rfl⟩⟩ <;> dsimp only <;> lia

/-- **never overspent**: after any sequence of allowance operations and spends, the amounts spent since the last
    approval never exceed what was granted since then, and a limited grant's remaining limit is exactly the
    difference -/
theorem never_overspent (ops : List AOp) : ∀ s, LInv s → LInv (ops.foldl lstep s) :=
  fun _ h => List.foldlRecOn ops lstep h fun s hs op _ => lstep_inv s op hs

example : LInv { g := none, granted := 0, spent := 0 } := by simp [LInv]

/-- non-vacuity: approve 100, spend 30, increase 5, spend 75 — accepted; a further spend of 1 is refused -/
example :
    let ops := [AOp.approve (some 100) [1, 2], .spend 1 30, .increase 5, .spend 2 75]
    (ops.foldl lstep { g := none, granted := 0, spent := 0 }).g = none ∧
    (astep (ops.foldl lstep { g := none, granted := 0, spent := 0 }).g (.spend 1 1)).2 = false := by
  decide

theorem astepMany_eq (gs : List (Option Grant)) (op : AOp) : astepMany gs op =
    if gs.all (fun g => (astep g op).2) then (gs.map (fun g => (astep g op).1), true) else (gs, false) := by
  simp only [astepMany, List.all_map, List.map_map]; rfl

/-- a successful call naming several message types gives every named slot exactly what the same call naming that
    type alone would have given it -/
theorem many_is_each (gs : List (Option Grant)) (op : AOp) (h : (astepMany gs op).2 = true) :
    (astepMany gs op).1 = gs.map (fun g => (astep g op).1) := by
  rw [astepMany_eq] at h ⊢
  split
  · rfl
  · rename_i hn; rw [if_neg hn] at h; cases h

/-- a property of the model's `astepMany`, which is atomic by definition.  The loops of precompiles/staking/approve.go
    write slot by slot on the live context and return at the first error: in Go nothing stays only because the failed
    call reverts the transaction (a calling contract that swallows the failure keeps the earlier slots' writes). -/
theorem many_failed_unchanged (gs : List (Option Grant)) (op : AOp) (h : (astepMany gs op).2 = false) :
    (astepMany gs op).1 = gs := by
  rw [astepMany_eq] at h ⊢
  split
  · rename_i hy; rw [if_pos hy] at h; cases h
  · rfl

/-- `decreaseAllowance` over several limited grants: every limit goes down by the amount named, whatever the order
    and whatever the other limits are -/
theorem decrease_many_exact (gs : List Grant) (x : Nat) (ls : List Nat)
    (hl : gs.map (·.limit) = ls.map some) (hx : ∀ l ∈ ls, x ≤ l) :
    (astepMany (gs.map some) (.decrease x)).2 = true ∧
    (astepMany (gs.map some) (.decrease x)).1 = gs.map (fun g => some { g with limit := g.limit.map (· - x) }) := by
  have hstep : ∀ g ∈ gs, astep (some g) (.decrease x) = (some { g with limit := g.limit.map (· - x) }, true) := by
    intro g hg
    have : g.limit ∈ gs.map (·.limit) := List.mem_map_of_mem hg
    rw [hl] at this
    obtain ⟨l, hlm, hle⟩ := List.mem_map.mp this
    simp only [astep, ← hle, if_neg (Nat.not_lt.mpr (hx l hlm))]
    rfl
  rw [astepMany_eq, if_pos, List.map_map]
  · exact ⟨rfl, List.map_congr_left fun g hg => congrArg Prod.fst (hstep g hg)⟩
  · rw [List.all_map, List.all_eq_true]
    exact fun g hg => congrArg Prod.snd (hstep g hg)

example : (astepMany [some { limit := some 4, allow := [1] }, some { limit := some 4, allow := [1] }] (.decrease 3)).1
    = [some { limit := some 1, allow := [1] }, some { limit := some 1, allow := [1] }] := by decide

/-- the effect-level model against the verdict-level one, for either order.  Only the last clause depends on the order:
    with Accept after the message a refused call may have run its message (`accept_after_message_counterexample`). -/
theorem effects_of_call (ord : Order) (c : Call) (g : Option Grant) :
    match stakingCall c g with
    | .ok d g' => stakingEffects ord c g = ⟨true, some (d, c.val, c.amt), g'⟩
    | .reject => (stakingEffects ord c g).ok = false ∧ (stakingEffects ord c g).grant = g ∧
        (ord = .acceptFirst → (stakingEffects ord c g).ran = none) := by
  -- both functions walk the same chain of guards: the ladder decides each guard once for both
  unfold stakingCall stakingEffects
  by_cases h1 : (!(c.caller == c.delegator) && c.origin != c.delegator) = true
  · simp only [h1, ↓reduceIte, ite_self, implies_true, and_self]                      -- a third party's funds
  simp only [h1]
  by_cases h2 : (c.caller == c.origin) = true
  · cases c.native <;>                                                                -- the owner's own call
      simp only [h2, Bool.not_true, Bool.not_false, Bool.false_eq_true, ↓reduceIte, implies_true, and_self]
  simp only [h2]
  rcases g with _ | gr
  · simp only [Bool.false_eq_true, ↓reduceIte, ite_self, implies_true, and_self]      -- no grant
  by_cases h3 : exceeds gr.limit c.amt = true
  · simp only [h3, Bool.false_eq_true, ↓reduceIte, ite_self, implies_true, and_self]  -- over the limit
  simp only [h3]
  -- `accept` and `native` remain, tested in either order
  cases accept gr c.val c.amt <;> cases c.native <;> cases ord <;>
    simp only [Bool.not_true, Bool.not_false, Bool.false_eq_true, ↓reduceIte, reduceCtorEq, implies_true, imp_self,
      and_self]

/-- the effect-level model refines the verdict-level one, in either order: same verdict, same affected account, same
    grant afterwards on success -/
theorem effects_refine_call (ord : Order) (c : Call) (g : Option Grant) :
    (match stakingCall c g with
     | .reject => (stakingEffects ord c g).ok = false
     | .ok d g' => stakingEffects ord c g = ⟨true, some (d, c.val, c.amt), g'⟩) := by
  have e := effects_of_call ord c g
  cases hc : stakingCall c g <;> rw [hc] at e
  · exact e.1
  · exact e

/-- **a call that fails leaves nothing behind** when the authorization accepts before the message runs: no message
    was executed and the stored grant is what it was — whatever the calling contract does with the failure -/
theorem failed_call_leaves_nothing (c : Call) (g : Option Grant)
    (h : (stakingEffects .acceptFirst c g).ok = false) :
    (stakingEffects .acceptFirst c g).ran = none ∧ (stakingEffects .acceptFirst c g).grant = g := by
  have e := effects_of_call .acceptFirst c g
  cases hc : stakingCall c g <;> rw [hc] at e
  · exact ⟨e.2.2 rfl, e.2.1⟩
  · rw [e] at h; cases h

/-- every message that runs is covered: by ownership (caller = signer) or by a grant that accepted it -/
theorem ran_implies_authorised (c : Call) (g : Option Grant) (m : Nat × Nat × Nat)
    (h : (stakingEffects .acceptFirst c g).ran = some m) :
    m = (c.delegator, c.val, c.amt) ∧
    (c.caller = c.origin ∨ ∃ gr g', g = some gr ∧ accept gr c.val c.amt = some g') := by
  have e := effects_of_call .acceptFirst c g
  cases hc : stakingCall c g <;> rw [hc] at e
  · rw [e.2.2 rfl] at h; cases h
  · rename_i d g'
    rw [e] at h
    obtain ⟨rfl, _, hg⟩ := stakingCall_ok c g d g' hc
    refine ⟨(Option.some.inj h).symm, ?_⟩
    rcases hg with ⟨ho, _⟩ | ⟨_, gr, hgr, _, hacc⟩
    · exact .inl ho
    · exact .inr ⟨gr, g', hgr, hacc⟩

/-- with Accept after the message the refusal comes too late: validator 2 is outside the grant, the call fails, and the
    delegation to validator 2 has been made all the same (the defect repaired by 5f6ffb7) -/
theorem accept_after_message_counterexample :
    let c : Call := { origin := 1, caller := 9, delegator := 1, val := 2, amt := 50 }
    let g : Option Grant := some { limit := some 3000, allow := [0] }
    stakingEffects .acceptAfter c g = ⟨false, some (1, 2, 50), g⟩ ∧
    stakingEffects .acceptFirst c g = ⟨false, none, g⟩ := by decide

/-- the four methods that spend by grant run their steps in the order of `Order.acceptFirst` (regenerated fact) -/
theorem staking_accepts_before_executing : Facts.stakingGrantSpendOrder =
    [("Delegate", "check; accept; run; update"), ("Undelegate", "check; accept; run; update"),
     ("Redelegate", "check; accept; run; update"), ("CancelUnbondingDelegation", "check; accept; run; update")] := rfl

example : (stakingEffects .acceptFirst { origin := 1, caller := 9, delegator := 1, val := 0, amt := 50 }
    (some { limit := some 3000, allow := [0] })) = ⟨true, some (1, 0, 50), some { limit := some 2950, allow := [0] }⟩ := by
  decide

end Haqq.Authz
