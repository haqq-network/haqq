/-
  C16 — A precompile call has exactly the effect of the native message.

  English statement (properties.jsonl):
    Calling a staking, distribution or ICS-20 precompile method as the account owner changes Cosmos state …
    exactly as submitting the corresponding native message from the same account in the same state would, and
    succeeds or fails in the same cases.  The read-only staking methods report the same delegations, unbondings,
    redelegations and validators as the native queries, …

  What is proved, and how it is tied to the code:
    * `owner_call_is_native`: in the authority model of the staking precompile (`Model/Authz.lean`, tied to the
      real code by C04's differential run) a call whose caller, signer and named delegator coincide consults no
      grant, changes no grant, moves the owner's stake, and succeeds exactly when the native message does (whether it
      does is an input of `stakingCall`: the theorem adds that the owner path refuses for no further reason) — for
      every grant state and every argument.
    * `runs_native_server` / `argument_mapping`: over facts regenerated from the source, each of the seven transaction
      methods listed (`CreateValidator`, `ClaimRewards` and the ICS-20 `Transfer` are not among them) decodes its
      arguments into the message literal written out here (delegator / validator / amount / denomination in the places
      the native message has them) and hands *that* message, unchanged, to the module's own message server.
    * `balances_follow_the_bank`: the balance side of the equivalence is C02's `evm_tx_conserves` (after the
      message the EVM's cached balances are synchronised with the bank, so the final Commit leaves what the
      native message produced) — before the repair e6ca689 it was not: pending rewards paid out during a
      delegation were burned, rewards withdrawn to another withdraw address were minted twice.
  The differential run forks the state, runs the native message on one fork and the precompile call by the owner
  on the other, and compares success and the auth / bank / staking / distribution / slashing / authz stores key
  by key; read-only methods are compared with the keepers' answers.  ICS-20 needs an IBC channel and is not run.
-/
import HaqqModel.Model.Authz
import HaqqModel.Props.C02
import HaqqModel.Generated.Facts

namespace Haqq.C16
open Haqq.Authz

/-- the owner path: caller = signer = named delegator -/
theorem owner_call_is_native (a val amt : Nat) (native : Bool) (g : Option Grant) :
    stakingCall { origin := a, caller := a, delegator := a, val := val, amt := amt, native := native } g
      = if native then .ok a g else .reject := by
  cases native <;> simp [stakingCall]

/-- `decoder→S→msgSrv.X(msg)` is what the extractor (harness/cmd/extract/precompiles.go) writes when the method calls its
    decoder, `S` and `msgSrv.X` once each, the decoder first, and hands `msgSrv.X` the identifier `msg`; that `msg` still
    holds the decoder's result at that point is not checked -/
def expectedServers : List (String × String) :=
  [("Delegate", "decoder→stakingkeeper.NewMsgServerImpl→msgSrv.Delegate(msg)"),
   ("Undelegate", "decoder→stakingkeeper.NewMsgServerImpl→msgSrv.Undelegate(msg)"),
   ("Redelegate", "decoder→stakingkeeper.NewMsgServerImpl→msgSrv.BeginRedelegate(msg)"),
   ("CancelUnbondingDelegation", "decoder→stakingkeeper.NewMsgServerImpl→msgSrv.CancelUnbondingDelegation(msg)"),
   ("SetWithdrawAddress", "decoder→distributionkeeper.NewMsgServerImpl→msgSrv.SetWithdrawAddress(msg)"),
   ("WithdrawDelegatorRewards", "decoder→distributionkeeper.NewMsgServerImpl→msgSrv.WithdrawDelegatorReward(msg)"),
   ("WithdrawValidatorCommission", "decoder→distributionkeeper.NewMsgServerImpl→msgSrv.WithdrawValidatorCommission(msg)")]

theorem runs_native_server : Facts.precompileRunsNativeServer = expectedServers := rfl

def coin : String := "Amount: sdk.Coin{ Denom: denom, Amount: math.NewIntFromBigInt(amount), }, "
def dlg (v : String) : String := "DelegatorAddress: sdk.AccAddress(" ++ v ++ ".Bytes()).String(), "

def expectedLiterals : List (String × String) :=
  [("NewMsgDelegate", "stakingtypes.MsgDelegate{ " ++ dlg "delegatorAddr" ++ "ValidatorAddress: validatorAddress, " ++ coin ++ "}"),
   ("NewMsgUndelegate", "stakingtypes.MsgUndelegate{ " ++ dlg "delegatorAddr" ++ "ValidatorAddress: validatorAddress, " ++ coin ++ "}"),
   ("NewMsgRedelegate", "stakingtypes.MsgBeginRedelegate{ " ++ dlg "delegatorAddr" ++
      "ValidatorSrcAddress: validatorSrcAddress, ValidatorDstAddress: validatorDstAddress, " ++ coin ++ "}"),
   ("NewMsgCancelUnbondingDelegation", "stakingtypes.MsgCancelUnbondingDelegation{ " ++ dlg "delegatorAddr" ++
      "ValidatorAddress: validatorAddress, " ++ coin ++ "CreationHeight: creationHeight.Int64(), }"),
   ("NewMsgSetWithdrawAddress", "distributiontypes.MsgSetWithdrawAddress{ " ++ dlg "delegatorAddress" ++ "WithdrawAddress: withdrawerAddress, }"),
   ("NewMsgWithdrawDelegatorReward", "distributiontypes.MsgWithdrawDelegatorReward{ " ++ dlg "delegatorAddress" ++ "ValidatorAddress: validatorAddress, }"),
   ("NewMsgWithdrawValidatorCommission", "distributiontypes.MsgWithdrawValidatorCommission{ ValidatorAddress: validatorAddress, }")]

theorem argument_mapping : Facts.precompileMsgLiterals = expectedLiterals := by decide +kernel

theorem balances_follow_the_bank :
    Facts.precompileBalanceSync.all (fun p => p.2 == "sync") = true := Haqq.SDB.precompiles_sync.1

/-- the validator / validators queries copy operator, jailed flag, status, tokens and shares straight out of the module's
    validator (per field: the all-zero default of `DefaultValidatorOutput` first, then the two query literals) -/
theorem validator_queries_copy_the_module : Facts.stakingValidatorInfoFields =
    [("DelegatorShares", "big.NewInt(0)"), ("DelegatorShares", "v.DelegatorShares.BigInt()"), ("DelegatorShares", "v.DelegatorShares.BigInt()"),
     ("Jailed", "false"), ("Jailed", "v.Jailed"), ("Jailed", "v.Jailed"),
     ("OperatorAddress", "\"\""), ("OperatorAddress", "v.OperatorAddress"), ("OperatorAddress", "v.OperatorAddress"),
     ("Status", "uint8(0)"), ("Status", "uint8(stakingtypes.BondStatus_value[v.Status.String()])"),
     ("Status", "uint8(stakingtypes.BondStatus_value[v.Status.String()])"),
     ("Tokens", "big.NewInt(0)"), ("Tokens", "v.Tokens.BigInt()"), ("Tokens", "v.Tokens.BigInt()")] := rfl

/-- the precompile's reading of a 256-bit creation height: before 98e7ca9 its low 64 bits (`checked = false`; read as
    unsigned here, where Go's `Int64()` reads them signed), now the height itself when it fits an int64 and a refusal
    otherwise -/
def heightArg (checked : Bool) (w : Nat) : Option Nat :=
  if checked then (if w < 2 ^ 63 then some w else none) else some (w % 2 ^ 64)

/-- a height the precompile passes on is the height the caller wrote -/
theorem height_names_only_itself (w h : Nat) (hh : heightArg true w = some h) : h = w := by
  unfold heightArg at hh
  simp only [if_true] at hh
  split at hh
  · exact (Option.some.inj hh).symm
  · cases hh

/-- before: 2^64 + 5 was read as 5 — the entry created at height 5 was cancelled by a call no native message expresses -/
theorem height_wrap_counterexample : heightArg false (2 ^ 64 + 5) = some 5 ∧ heightArg true (2 ^ 64 + 5) = none := by decide

/-- the code's side of `heightArg true`: every narrowing conversion of a big integer in the precompile packages sits behind a
    range test that returns (regenerated from precompiles/*/*.go) -/
theorem narrowing_conversions_are_guarded :
    Facts.precompileNarrowingConversions = [("precompiles/staking/types.go:NewMsgCancelUnbondingDelegation:creationHeight.Int64()", "guarded")] := rfl

end Haqq.C16
