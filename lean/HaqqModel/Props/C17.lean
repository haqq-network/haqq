/-
  C17 — Base fee follows EIP-1559 and stays within its bounds.

  English statement (properties.jsonl):
    The base fee of a block is the EIP-1559 function of the previous base fee and the previous
    block's gas figure g against the target T (block gas limit / elasticity): unchanged when g = T,
    raised by max(1, base x (g-T) / T / denominator) when g > T, lowered by base x (T-g) / T /
    denominator when g < T but never below the configured minimum gas price, and therefore monotone
    in g.  The gas figure fed to it is max(gasWanted x minGasMultiplier, gasUsed), so it cannot be
    pushed down by declaring gas that is not paid for.

  Formalisation: `Params.valid` (what `Params.Validate()` enforces *now*: denominator ≠ 0 and —
  regenerated fact `feemarketValidateRejectsZeroElasticity` — elasticity ≠ 0), base fee enabled and past
  the enable height, T > 0.  "Monotone in g" is false of the code when ⌊minGasPrice⌋ exceeds the
  parent base fee (pinned by x/feemarket/keeper/eip1559_test.go): `bf_mono_partial` carries the
  hypothesis ⌊minGasPrice⌋ ≤ parent, `bf_mono_counterexample` is the recorded finding
  `C17:non-monotone:minGasPrice>parentBaseFee`.
-/
import HaqqModel.Prelude.Basic
import HaqqModel.Model.FeeMarket
import HaqqModel.Generated.Facts

namespace Haqq.FeeMarket

/-- the regime in which the EIP-1559 branch is evaluated -/
structure Active (p : Params) (height maxGas : Int) : Prop where
  enabled : p.noBaseFee = false
  past : p.enableHeight < height
  valid : p.valid = true
  tpos : 0 < target p maxGas

/-- `hm` holds of the code because `Block.MaxGas` is an int64; it rules out the `T ≥ 2^64 → nil` branch of `calcBaseFee`
    (Go: `!parentGasTargetBig.IsUint64()`) -/
theorem target_lt (p : Params) (maxGas : Int) (hm : maxGas < 2 ^ 63) :
    target p maxGas < 2 ^ 64 := by
  refine Nat.lt_of_le_of_lt (Nat.div_le_self _ _) ?_
  unfold gasLimit
  split
  · exact (Int.toNat_lt' (by decide)).2 (Int.lt_trans hm (by decide))
  · decide

/-- the EIP-1559 function: next base fee from parent fee `b`, target `T`, denominator `d`, floor `m` and gas figure `g` -/
def nextFee (b T d m g : Nat) : Nat :=
  if g = T then b
  else if T < g then b + max (b * (g - T) / T / d) 1
  else max (b - b * (T - g) / T / d) m

theorem nextFee_at (b T d m : Nat) : nextFee b T d m T = b := if_pos rfl

theorem nextFee_above {b T d m g : Nat} (h : T < g) : nextFee b T d m g = b + max (b * (g - T) / T / d) 1 := by
  rw [nextFee, if_neg (Nat.ne_of_gt h), if_pos h]

theorem nextFee_below {b T d m g : Nat} (h : g < T) : nextFee b T d m g = max (b - b * (T - g) / T / d) m := by
  rw [nextFee, if_neg (Nat.ne_of_lt h), if_neg (Nat.lt_asymm h)]

theorem calcBaseFee_active (p : Params) (height maxGas : Int) (g : Nat) (h : Active p height maxGas)
    (hm : maxGas < 2 ^ 63) :
    calcBaseFee p height maxGas g =
      .fee (nextFee p.baseFee (target p maxGas) p.denominator (p.minGasPrice / dec18) g) := by
  have hv := h.valid
  simp only [Params.valid, Bool.and_eq_true, bne_iff_ne, ne_eq, decide_eq_true_eq] at hv
  obtain ⟨⟨⟨hd, he⟩, _⟩, _⟩ := hv
  unfold calcBaseFee nextFee
  simp only [h.enabled, Bool.false_or, decide_eq_true_eq, Int.not_lt.2 (Int.le_of_lt h.past), Int.ne_of_gt h.past, he, hd,
    Nat.not_le.2 (target_lt p maxGas hm), Nat.ne_of_gt h.tpos, if_false, gt_iff_lt]
  split
  · rfl
  · split <;> rfl

theorem bf_eq_target (p : Params) (height maxGas : Int) (h : Active p height maxGas) (hm : maxGas < 2 ^ 63) :
    calcBaseFee p height maxGas (target p maxGas) = .fee p.baseFee := by
  rw [calcBaseFee_active p height maxGas _ h hm, nextFee_at]

theorem bf_up (p : Params) (height maxGas : Int) (g : Nat) (h : Active p height maxGas) (hm : maxGas < 2 ^ 63)
    (hg : target p maxGas < g) :
    calcBaseFee p height maxGas g =
      .fee (p.baseFee + max (p.baseFee * (g - target p maxGas) / target p maxGas / p.denominator) 1) := by
  rw [calcBaseFee_active p height maxGas _ h hm, nextFee_above hg]

theorem bf_down (p : Params) (height maxGas : Int) (g : Nat) (h : Active p height maxGas) (hm : maxGas < 2 ^ 63)
    (hg : g < target p maxGas) :
    calcBaseFee p height maxGas g =
      .fee (max (p.baseFee - p.baseFee * (target p maxGas - g) / target p maxGas / p.denominator)
              (p.minGasPrice / dec18)) := by
  rw [calcBaseFee_active p height maxGas _ h hm, nextFee_below hg]

def Result.val : Result → Nat
  | .fee v => v
  | _ => 0

theorem bf_is_fee (p : Params) (height maxGas : Int) (g : Nat) (h : Active p height maxGas) (hm : maxGas < 2 ^ 63) :
    calcBaseFee p height maxGas g = .fee (calcBaseFee p height maxGas g).val := by
  rw [calcBaseFee_active p height maxGas _ h hm]; rfl

theorem bf_ge_min_on_decrease (p : Params) (height maxGas : Int) (g : Nat) (h : Active p height maxGas)
    (hm : maxGas < 2 ^ 63) (hg : g < target p maxGas) :
    p.minGasPrice / dec18 ≤ (calcBaseFee p height maxGas g).val := by
  rw [bf_down p height maxGas g h hm hg]; exact Nat.le_max_right _ _

/-- the strict reading of "never below the configured minimum gas price" fails by less than one unit when the minimum has a
    fractional part: the floor applied on a decrease is ⌊minGasPrice⌋ — parent base fee 11, minimum 10.9, an empty
    parent block: the base fee becomes 10 (recorded finding: transactions priced 10 pass the base-fee check and are then
    refused by the minimum-gas-price decorator, so nothing is under-charged) -/
theorem bf_min_fraction_truncated_counterexample :
    calcBaseFee { noBaseFee := false, enableHeight := 0, baseFee := 11, elasticity := 2, denominator := 8,
                  minGasPrice := 10900000000000000000, minGasMultiplier := 500000000000000000 } 5 100 0 = .fee 10 ∧
    10 * dec18 < 10900000000000000000 := by decide

/-- with an integral minimum the strict reading holds -/
theorem bf_ge_min_strict_of_integral (p : Params) (height maxGas : Int) (g : Nat) (h : Active p height maxGas)
    (hm : maxGas < 2 ^ 63) (hlt : g < target p maxGas) (m : Nat) (hint : p.minGasPrice = m * dec18) :
    p.minGasPrice ≤ (calcBaseFee p height maxGas g).val * dec18 := by
  have h1 := bf_ge_min_on_decrease p height maxGas g h hm hlt
  have hd : (0:Nat) < dec18 := by decide
  rw [hint] at h1 ⊢
  rw [Nat.mul_div_cancel _ hd] at h1
  exact Nat.mul_le_mul_right _ h1

theorem bf_gt_parent_of_gt (p : Params) (height maxGas : Int) (g : Nat) (h : Active p height maxGas)
    (hm : maxGas < 2 ^ 63) (hg : target p maxGas < g) :
    p.baseFee < (calcBaseFee p height maxGas g).val := by
  rw [bf_up p height maxGas g h hm hg]
  exact Nat.lt_add_of_pos_right (Nat.lt_of_lt_of_le Nat.zero_lt_one (Nat.le_max_right _ _))

theorem nextFee_le_parent (b T d m g : Nat) (hm : m ≤ b) (hg : g ≤ T) : nextFee b T d m g ≤ b := by
  rcases Nat.eq_or_lt_of_le hg with rfl | hg
  · exact Nat.le_of_eq (nextFee_at ..)
  · rw [nextFee_below hg]; exact Nat.max_le.2 ⟨Nat.sub_le _ _, hm⟩

theorem parent_le_nextFee (b T d m g : Nat) (hg : T ≤ g) : b ≤ nextFee b T d m g := by
  rcases Nat.eq_or_lt_of_le hg with rfl | hg
  · exact Nat.le_of_eq (nextFee_at ..).symm
  · rw [nextFee_above hg]; exact Nat.le_add_right _ _

/-- the EIP-1559 function is monotone in the gas figure as long as the floor does not exceed the parent fee: across the
    target the parent fee separates the two values, on one side the correction term is monotone in the distance -/
theorem nextFee_mono {b m g1 g2 : Nat} (T d : Nat) (hm : m ≤ b) (hg : g1 ≤ g2) : nextFee b T d m g1 ≤ nextFee b T d m g2 := by
  have mono : ∀ {x y}, x ≤ y → b * x / T / d ≤ b * y / T / d := fun h =>
    Nat.div_le_div_right (Nat.div_le_div_right (Nat.mul_le_mul_left b h))
  rcases Nat.lt_or_ge T g1 with h1 | h1
  · rw [nextFee_above h1, nextFee_above (Nat.lt_of_lt_of_le h1 hg)]
    exact Nat.add_le_add_left (max_le_max (mono (Nat.sub_le_sub_right hg T)) (Nat.le_refl 1)) b
  · rcases Nat.lt_or_ge g2 T with h2 | h2
    · rw [nextFee_below (Nat.lt_of_le_of_lt hg h2), nextFee_below h2]
      exact max_le_max (Nat.sub_le_sub_left (mono (Nat.sub_le_sub_left hg T)) b) (Nat.le_refl m)
    · exact Nat.le_trans (nextFee_le_parent b T d m g1 hm h1) (parent_le_nextFee b T d m g2 h2)

/-- **monotone in g**, in the regime ⌊minGasPrice⌋ ≤ parent base fee -/
theorem bf_mono_partial (p : Params) (height maxGas : Int) (g1 g2 : Nat) (h : Active p height maxGas)
    (hm : maxGas < 2 ^ 63) (hmin : p.minGasPrice / dec18 ≤ p.baseFee) (hg : g1 ≤ g2) :
    (calcBaseFee p height maxGas g1).val ≤ (calcBaseFee p height maxGas g2).val := by
  rw [calcBaseFee_active p height maxGas g1 h hm, calcBaseFee_active p height maxGas g2 h hm]
  exact nextFee_mono _ _ hmin hg

def cexParams : Params :=
  { noBaseFee := false, enableHeight := 0, baseFee := 1000000000, elasticity := 2, denominator := 8,
    minGasPrice := 1500000000 * dec18, minGasMultiplier := dec18 / 2 }

/-- the recorded finding `C17:non-monotone:minGasPrice>parentBaseFee` on the model (the suite's own numbers): with
    ⌊minGasPrice⌋ = 1.5e9 above the parent base fee 1e9 the result is not monotone in g: g = 25 < T = 50 yields 1.5e9,
    g = T yields 1e9. -/
theorem bf_mono_counterexample :
    calcBaseFee cexParams 1 100 25 = .fee 1500000000 ∧ calcBaseFee cexParams 1 100 50 = .fee 1000000000 ∧
    Active cexParams 1 100 := by
  refine ⟨by decide, by decide, ⟨rfl, by decide, by decide, by decide⟩⟩

/-- the validation that guards the division: `Params.Validate()` rejects elasticity 0 in the code as it is now
    (regenerated fact; since the repair 4eb6ee7) -/
theorem elasticity_zero_rejected : Facts.feemarketValidateRejectsZeroElasticity = true := rfl

/-- for accepted parameters no input makes CalculateBaseFee panic as long as the target is positive -/
theorem no_panic (p : Params) (height maxGas : Int) (g : Nat) (hv : p.valid = true)
    (ht : 0 < target p maxGas) : calcBaseFee p height maxGas g ≠ .panic := by
  simp only [Params.valid, Bool.and_eq_true, bne_iff_ne, ne_eq] at hv
  obtain ⟨⟨⟨hd, he⟩, _⟩, _⟩ := hv
  -- the three `.panic` branches of `calcBaseFee`, each behind a zero test
  fun_cases calcBaseFee p height maxGas g with
  | case3 => exact absurd ‹p.elasticity = 0› he
  | case6 => exact absurd ‹p.denominator = 0› hd
  | case7 => exact absurd ‹target p maxGas = 0› (Nat.ne_of_gt ht)
  | _ => nofun

/-- elasticity 0 (accepted by the validation before the repair 4eb6ee7) makes `calcBaseFee`, the model of
    `CalculateBaseFee` (which BeginBlock calls), panic -/
theorem elasticity_zero_panics (p : Params) (height maxGas : Int) (g : Nat)
    (h1 : p.noBaseFee = false) (h2 : p.enableHeight < height) (h0 : p.elasticity = 0) :
    calcBaseFee p height maxGas g = .panic := by
  simp [calcBaseFee, h1, Int.not_lt.2 (Int.le_of_lt h2), Int.ne_of_gt h2, h0]

/-- below the int64 guard the figure is max(⌊gasWanted·minGasMultiplier⌋, gasUsed) -/
theorem gas_figure (wanted used mult : Nat) (hw : wanted < 2 ^ 63) (hu : used < 2 ^ 63) :
    endBlockGas wanted used mult = some (max (wanted * mult / dec18) used) := by
  simp [endBlockGas, Nat.not_le.2 hw, Nat.not_le.2 hu]

theorem endBlockGas_some {wanted used mult g : Nat} (h : endBlockGas wanted used mult = some g) :
    g = max (wanted * mult / dec18) used := by
  unfold endBlockGas at h; split at h
  · cases h
  · exact (Option.some.inj h).symm

theorem gas_figure_ge_used (wanted used mult g : Nat) (h : endBlockGas wanted used mult = some g) : used ≤ g := by
  rw [endBlockGas_some h]; exact Nat.le_max_right _ _

theorem gas_figure_ge_wanted (wanted used mult g : Nat) (h : endBlockGas wanted used mult = some g) :
    wanted * mult / dec18 ≤ g := by
  rw [endBlockGas_some h]; exact Nat.le_max_left _ _

theorem gas_figure_mono (w1 w2 u1 u2 mult g1 g2 : Nat) (hw : w1 ≤ w2) (hu : u1 ≤ u2)
    (h1 : endBlockGas w1 u1 mult = some g1) (h2 : endBlockGas w2 u2 mult = some g2) : g1 ≤ g2 := by
  rw [endBlockGas_some h1, endBlockGas_some h2]
  exact max_le_max (Nat.div_le_div_right (Nat.mul_le_mul_right mult hw)) hu

/-- with multiplier 1 the figure is at least gasWanted (that a larger gasWanted never yields a smaller figure is
    `gas_figure_mono`) -/
theorem gas_figure_full_multiplier (wanted used g : Nat) (h : endBlockGas wanted used dec18 = some g) :
    wanted ≤ g := by
  have := gas_figure_ge_wanted wanted used dec18 g h
  rwa [Nat.mul_div_cancel _ (by decide : 0 < dec18)] at this

/-- non-vacuity: default-like parameters are `Active`, and the three branches give the suite's numbers -/
example :
    let p : Params := { cexParams with minGasPrice := 0 }
    Active p 1 100 ∧ calcBaseFee p 1 100 50 = .fee 1000000000 ∧
    calcBaseFee p 1 100 100 = .fee 1125000000 ∧ calcBaseFee p 1 100 25 = .fee 937500000 := by
  refine ⟨⟨rfl, by decide, by decide, by decide⟩, by decide, by decide, by decide⟩

end Haqq.FeeMarket
