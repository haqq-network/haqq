/-
  C06 — Ethereum messages and blocked types cannot bypass their route.

  English statement (properties.jsonl):
    An Ethereum transaction message is executed only through the Ethereum route of the ante handler
    (where its fee, nonce and signature rules apply); wrapped in a plain Cosmos transaction, or nested at
    any depth inside authorization-exec messages, it is rejected before execution.  Message types that
    are barred from delegation-by-grant can be neither granted nor executed through nested grants, and
    transactions carrying an unknown extension option are rejected.

  Formalisation: message trees are a mutual inductive type (MsgExec nests lists of messages to any depth
  and width); `badList` marks every tree that holds a blocked message below an exec or a grant of a
  blocked type at any depth.  Chain composition, route table, disabled types, the nesting cap and the
  per-decorator "only MsgEthereumTx" facts are regenerated from app/ante on every run and decided here.
  "Extension option" = critical `extension_options`.
-/
import HaqqModel.Prelude.Basic
import HaqqModel.Model.Ante
import HaqqModel.Generated.Facts

namespace Haqq.Ante

theorem checkEnter_false {N : Nat} {ms : MsgList} {lvl : Nat} (h : checkLoop N ms true lvl = false) :
    checkEnter N ms lvl = false := by
  rw [checkEnter, h, ite_self]

/-- a tree with a blocked message below an exec, or a grant of a blocked type, anywhere, is rejected by
    the limiter's scan — whatever the current nesting level and cap -/
theorem bad_loop_rejected (N : Nat) : ∀ (ms : MsgList) (inner : Bool) (lvl : Nat),
    badList ms inner = true → checkLoop N ms inner lvl = false
  | .nil, inner, lvl, h => by rw [badList] at h; cases h
  | .cons m rest, inner, lvl, h => by
    rw [badList, Bool.or_eq_true] at h
    rcases h with h | h
    · cases m with
      | eth | createVesting | grant u => rw [badMsg] at h; rw [checkLoop, h]; rfl
      | other k => rw [badMsg] at h; cases h
      | exec ims => rw [badMsg] at h; rw [checkLoop, checkEnter_false (bad_loop_rejected N ims true _ h)]; rfl
    · -- the head only decides at which level the tail is scanned
      have ih := fun lvl' => bad_loop_rejected N rest inner lvl' h
      cases m <;> simp only [checkLoop, ih, Bool.and_false]

theorem bad_enter_rejected (N : Nat) : ∀ (ms : MsgList) (lvl : Nat),
    badList ms true = true → checkEnter N ms lvl = false
  | ms, lvl, h => checkEnter_false (bad_loop_rejected N ms true lvl h)

/-- **blocked types cannot be executed or granted through nesting**: any transaction whose message tree
    contains MsgEthereumTx or MsgCreateVestingAccount below a MsgExec at any depth, or a MsgGrant for one
    of them at any depth (top level included), is rejected by the AuthzLimiterDecorator -/
theorem blocked_in_exec_rejected (N : Nat) (msgs : MsgList) (h : badList msgs false = true) :
    authzLimiter N msgs = false := by
  rw [authzLimiter, bad_loop_rejected N msgs false 1 h, ite_self]

/-- the nesting cap rejects by itself: a message wrapped in `n` MsgExec with n + lvl ≥ cap is rejected
    whatever the innermost message is -/
theorem deep_nesting_rejected (N : Nat) (m : Msg) : ∀ (n lvl : Nat) (inner : Bool), 0 < n → N ≤ lvl + n →
    checkLoop N (.cons (nestExec n m) .nil) inner lvl = false := by
  intro n
  induction n with
  | zero => exact fun _ _ h => absurd h (Nat.lt_irrefl 0)
  | succ k ih =>
    intro lvl inner _ hle
    rw [nestExec, checkLoop, checkEnter]
    split
    · rfl
    · next hn =>
      -- the cap test let `lvl + 1` through, so there is nesting left
      have hk : 0 < k := Nat.pos_of_ne_zero fun hk => hn (by rwa [hk] at hle)
      have hle' : N ≤ lvl + 1 + k := Nat.add_right_comm lvl 1 k ▸ hle
      rw [ih (lvl + 1) true hk hle']
      rfl

/-- what reaches the fee and signature decorators -/
theorem gate_pass (N : Nat) (opts : List Ext) (msgs : MsgList) : gate N opts msgs = .passGate ↔
    (route opts = .evm ∧ opts.length = 1 ∧ allEth msgs = true) ∨
    (hasTopLevelEth msgs = false ∧ authzLimiter N msgs = true ∧
      ((route opts = .eip712 ∧ opts.length = 1) ∨
       (route opts = .cosmos ∧ opts.all (· == .dynamicFee) = true))) := by
  -- on each route every `if` as a disjunction (`ite_eq_iff`), of which all alternatives but `.passGate` drop out
  unfold gate
  cases route opts <;>
    simp only [ite_eq_iff, reduceCtorEq, and_false, false_and, true_and, and_true, false_or, or_false, ne_eq,
      Decidable.not_not, Bool.not_eq_true', Bool.not_eq_false, Bool.not_eq_true]

/-- a MsgEthereumTx at the top level of a transaction that is not on the Ethereum route is rejected -/
theorem eth_on_cosmos_routes_rejected (N : Nat) (opts : List Ext) (msgs : MsgList)
    (hr : route opts = .cosmos ∨ route opts = .eip712) (h : hasTopLevelEth msgs = true) :
    gate N opts msgs = .rejectEthMsg := by
  unfold gate
  rcases hr with hr | hr <;> simp only [hr, h, ↓reduceIte]

theorem bad_not_allEth (ms : MsgList) : badList ms false = true → allEth ms = false := by
  -- `allEth` reads on only past a top-level MsgEthereumTx, which is not bad in itself
  fun_induction allEth ms with
  | case1 => rw [badList]; nofun
  | case2 rest ih => rw [badList, badMsg, Bool.false_or]; exact ih
  | case3 => exact fun _ => rfl

/-- a tree marked by `badList` passes the gate on no route: the limiter refuses it on the Cosmos and EIP-712 routes, and it
    is not all-MsgEthereumTx (`bad_not_allEth`) -/
theorem blocked_never_passes (N : Nat) (opts : List Ext) (msgs : MsgList) (h : badList msgs false = true) :
    gate N opts msgs ≠ .passGate := by
  rw [Ne, gate_pass, bad_not_allEth msgs h, blocked_in_exec_rejected N msgs h]
  simp only [Bool.false_eq_true, and_false, false_and, or_self, not_false_eq_true]

theorem eth_route_only_eth (N : Nat) (opts : List Ext) (msgs : MsgList) (hr : route opts = .evm)
    (h : allEth msgs = false) : gate N opts msgs ≠ .passGate := by
  rw [Ne, gate_pass, hr, h]
  simp only [Bool.false_eq_true, reduceCtorEq, and_false, false_and, or_self, not_false_eq_true]

theorem route_unknown {opts : List Ext} {k : Nat} (hl : opts.length = 1) (h : .unknown k ∈ opts) :
    route opts = .rejected :=
  match opts, hl, h with
  | [_], _, h => by cases List.mem_singleton.mp h; rfl

/-- **unknown extension options are rejected**, wherever they stand in the option list -/
theorem unknown_ext_rejected (N : Nat) (opts : List Ext) (msgs : MsgList) (k : Nat)
    (h : Ext.unknown k ∈ opts) : gate N opts msgs ≠ .passGate := by
  intro hp
  rcases (gate_pass N opts msgs).mp hp with ⟨hr, hl, _⟩ | ⟨_, _, ⟨hr, hl⟩ | ⟨_, ha⟩⟩
  · rw [route_unknown hl h] at hr; cases hr
  · rw [route_unknown hl h] at hr; cases hr
  · cases List.all_eq_true.mp ha _ h

/-- the same through DeliverTx (decoder first, then the ante handler) -/
theorem unknown_ext_rejected_deliver (N : Nat) (opts : List Ext) (msgs : MsgList) (k : Nat)
    (h : Ext.unknown k ∈ opts) : deliver N opts msgs ≠ .passGate := by
  -- the decoder refuses: the ante handler is not reached
  rw [deliver, if_pos (List.any_eq_true.mpr ⟨_, h, rfl⟩)]
  nofun

theorem route_table :
    Facts.anteRoutes =
      [("/ethermint.evm.v1.ExtensionOptionsEthereumTx", "newEVMAnteHandler"),
       ("/ethermint.types.v1.ExtensionOptionsWeb3Tx", "newLegacyCosmosAnteHandlerEip712"),
       ("/ethermint.types.v1.ExtensionOptionDynamicFeeTx", "newCosmosAnteHandler")] ∧
    Facts.anteDefaultRoute = "newCosmosAnteHandler" ∧ Facts.anteUnknownFirstOptionRejected = true ∧
    Facts.appUsesNewAnteHandler = true := ⟨rfl, rfl, rfl, rfl⟩

def indexOf? (l : List String) (s : String) : Option Nat :=
  match l with
  | [] => none
  | x :: xs => if x == s then some 0 else (indexOf? xs s).map (· + 1)

def before (l : List String) (a b : String) : Bool :=
  match indexOf? l a, indexOf? l b with
  | some i, some j => i < j
  | _, _ => false

/-- on both non-Ethereum routes RejectMessages is the first decorator and the authz limiter the second, ahead of that
    route's signature verification — and, stated for the Cosmos chain only, of the sequence increment; the Cosmos route
    checks extension options, before the signature, with the dynamic-fee checker -/
theorem chain_order :
    Facts.anteCosmosChain.head? = some "cosmosante.RejectMessagesDecorator" ∧
    Facts.anteEip712Chain.head? = some "cosmosante.RejectMessagesDecorator" ∧
    Facts.anteCosmosChain[1]? = some "cosmosante.NewAuthzLimiterDecorator" ∧
    Facts.anteEip712Chain[1]? = some "cosmosante.NewAuthzLimiterDecorator" ∧
    before Facts.anteCosmosChain "cosmosante.NewAuthzLimiterDecorator" "ante.NewSigVerificationDecorator" = true ∧
    before Facts.anteCosmosChain "cosmosante.NewAuthzLimiterDecorator" "ante.NewIncrementSequenceDecorator" = true ∧
    before Facts.anteEip712Chain "cosmosante.NewAuthzLimiterDecorator" "cosmosante.NewLegacyEip712SigVerificationDecorator" = true ∧
    before Facts.anteCosmosChain "ante.NewExtensionOptionsDecorator" "ante.NewSigVerificationDecorator" = true ∧
    Facts.anteExtensionOptionChecker = "ethermint.HasDynamicFeeExtensionOption" :=
  ⟨rfl, rfl, rfl, rfl, by decide +kernel⟩

theorem limiter_config :
    Facts.anteCosmosAuthzDisabled =
      ["sdk.MsgTypeURL(&evmtypes.MsgEthereumTx{})", "sdk.MsgTypeURL(&sdkvesting.MsgCreateVestingAccount{})"] ∧
    Facts.anteEip712AuthzDisabled = Facts.anteCosmosAuthzDisabled ∧ Facts.authzMaxNestedMsgs = 7 := ⟨rfl, rfl, rfl⟩

def lookup (l : List (String × String)) (k : String) : Option String :=
  match l with
  | [] => none
  | (a, b) :: rest => if a == k then some b else lookup rest k

/-- on the Ethereum route: exactly one extension option is demanded, and the decorators that run
    unconditionally on DeliverTx reject any message that is not MsgEthereumTx -/
theorem eth_route_facts :
    Facts.ethValidateBasicRequiresOneExt = true ∧ Facts.eip712VerifierRequiresOneExt = true ∧
    lookup Facts.anteEvmRejectsNonEth "evmante.NewEthValidateBasicDecorator" = some "except:ctx.IsReCheckTx()" ∧
    lookup Facts.anteEvmRejectsNonEth "evmante.NewEthSigVerificationDecorator" = some "always" ∧
    lookup Facts.anteEvmRejectsNonEth "evmante.NewCanTransferDecorator" = some "always" ∧
    lookup Facts.anteEvmRejectsNonEth "evmante.NewEthIncrementSenderSequenceDecorator" = some "always" ∧
    before Facts.anteEvmChain "evmante.NewEthValidateBasicDecorator" "evmante.NewEthGasConsumeDecorator" = true ∧
    before Facts.anteEvmChain "evmante.NewEthSigVerificationDecorator" "evmante.NewEthIncrementSenderSequenceDecorator" = true := by
  decide +kernel

def deepTree (m : Msg) : MsgList :=
  .cons (.other 1) (.cons (.exec (.cons (.other 2) (.cons (.exec (.cons (.exec (.cons m .nil)) .nil)) .nil))) .nil)

/-- non-vacuity: a 3-deep tree with a blocked message in the innermost exec is `bad` and rejected with the
    code's cap; the same tree without it passes; 6 nested execs hit the cap -/
example :
    badList (deepTree .eth) false = true ∧ authzLimiter Facts.authzMaxNestedMsgs (deepTree .eth) = false ∧
    authzLimiter Facts.authzMaxNestedMsgs (deepTree (.other 3)) = true ∧
    authzLimiter Facts.authzMaxNestedMsgs (.cons (nestExec 5 (.other 0)) .nil) = true ∧
    authzLimiter Facts.authzMaxNestedMsgs (.cons (nestExec 6 (.other 0)) .nil) = false ∧
    gate 7 [.dynamicFee, .ethTx] (.cons (.other 0) .nil) = .rejectExt ∧
    gate 7 [] (.cons (.other 0) .nil) = .passGate := by
  simp [authzLimiter, checkLoop, checkEnter, deepTree, nestExec, disabled, gate, route, hasTopLevelEth, badList, badMsg,
    Facts.authzMaxNestedMsgs]

end Haqq.Ante
