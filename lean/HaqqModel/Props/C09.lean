/-
  C09 — Vesting schedule arithmetic is exact; clawback takes only unvested.

  English statement (properties.jsonl):
    A schedule read at time t yields the sum of all periods ended by t: it is non-decreasing in t,
    zero up to the start and equal to the total from the end on, so vested+unvested and
    locked+unlocked always equal the original grant and never go negative.  Merging a grant yields
    exactly the union of both schedules' release events, so at every instant after both have started
    it releases the sum of the two; capping yields exactly their minimum.  A clawback can be triggered
    only by the recorded funder, transfers exactly the unvested amount to the destination, keeps
    every vested coin (still subject to its lockup) and leaves a valid account.

  Formalisation notes
    * amounts are pointwise per denomination; statements about `IsAllLTE`/`IsZero`-dependent code
      (ConjunctPeriods, Validate, clawback) are for the denominations in use, `d < M`, M arbitrary;
    * "zero up to the start" wins at t = start (a zero-length first period is released strictly
      after the start), so equality with the step function is for `start < t`;
    * "leaves a valid account": `clawback_valid` for the start/end comparison the code has now,
      `clawback_valid_counterexample` for the strict one.
-/
import HaqqModel.Lemmas.Conjunct
import HaqqModel.Model.Vesting
import HaqqModel.Generated.Facts

namespace Haqq.Vest
open Haqq.Sched

theorem schedule_zero_until_start (start endT : Int) (ps : List Period) (total : Amt) (t : Int)
    (h : t ≤ start) (d : Nat) : readSchedule start endT ps total t d = 0 := by
  rw [read_zero start endT ps total t h]; rfl

theorem schedule_total_from_end (start endT : Int) (ps : List Period) (total : Amt) (t : Int)
    (hs : start < t) (h : endT ≤ t) : readSchedule start endT ps total t = total :=
  read_total start endT ps total t hs h

theorem schedule_is_step_function (start endT : Int) (ps : List Period) (total : Amt) (t : Int) (d : Nat)
    (hv : Valid start endT ps total) (hs : start < t) :
    readSchedule start endT ps total t d = stepLoop start ps t d := by
  rw [hv.read_eq_loop hs, readLoop_eq_step ps start t d hv.wf]

theorem schedule_monotone (start endT : Int) (ps : List Period) (total : Amt) (t1 t2 : Int) (d : Nat)
    (hv : Valid start endT ps total) (h : t1 ≤ t2) :
    readSchedule start endT ps total t1 d ≤ readSchedule start endT ps total t2 d := by
  by_cases hs : t1 ≤ start
  · rw [read_zero _ _ _ _ _ hs]; exact Nat.zero_le _
  · have hs := Int.not_le.1 hs
    rw [hv.read_eq_loop hs, hv.read_eq_loop (Int.lt_of_lt_of_le hs h)]; exact readLoop_mono ps start t1 t2 d h

/-- an account whose two schedules are valid.  Stronger than what `Validate()` checks (`validate_ok_iff`): that looks
    neither at the sign of the period lengths nor at the denominations not in use. -/
structure AccValid (a : Account) : Prop where
  lockup : Valid a.start a.endT a.lockup a.original
  vesting : Valid a.start a.endT a.vesting a.original

theorem vested_add_unvested (a : Account) (hv : AccValid a) (t : Int) (d : Nat) :
    a.vested t d + a.unvested t d = a.original d ∧ a.unlocked t d + a.lockedUp t d = a.original d :=
  ⟨Nat.add_sub_cancel' (read_le_total a.start a.endT a.vesting a.original t d hv.vesting),
   Nat.add_sub_cancel' (read_le_total a.start a.endT a.lockup a.original t d hv.lockup)⟩

theorem disjunct_WF (sA sB : Int) (pA pB : List Period) (hA : WF pA) (hB : WF pB) :
    WF (disjunctPeriods sA sB pA pB).periods :=
  disj_WF sA sB (min sA sB) pA pB hA hB (Next_min_left sB hA) (Next_min_right sA hB)

theorem disjunct_total (sA sB : Int) (pA pB : List Period) (hA : WF pA) (hB : WF pB) (d : Nat) :
    totalAmount (disjunctPeriods sA sB pA pB).periods d = totalAmount pA d + totalAmount pB d :=
  disj_total sA sB (min sA sB) pA pB d

/-- DisjunctPeriods is exactly the union of the release events: read as a step function from the
    common start it is the sum of the two, at *every* instant; nothing is created or lost; it starts at
    the earlier start.  Its end is not stated here: `Sched.disj_end` gives the end of the loop `disj` only. -/
theorem disjunct_union (sA sB : Int) (pA pB : List Period) (hA : WF pA) (hB : WF pB) (t : Int) (d : Nat) :
    let m := disjunctPeriods sA sB pA pB
    readLoop m.start m.periods t d = readLoop sA pA t d + readLoop sB pB t d ∧
    totalAmount m.periods d = totalAmount pA d + totalAmount pB d ∧
    WF m.periods ∧ m.start = min sA sB :=
  ⟨disj_read sA sB _ pA pB t d, disjunct_total sA sB pA pB hA hB d, disjunct_WF sA sB pA pB hA hB, rfl⟩

/-- `E`: addGrant records one end time, the later of the two merged ends, for both schedules -/
theorem disjunct_valid {sA eA sB E : Int} {pA pB : List Period} {totA totB : Amt} (hv : Valid sA eA pA totA)
    (hB : WF pB) (hsum : ∀ d, totB d = totalAmount pB d) (hE : (disjunctPeriods sA sB pA pB).endT ≤ E) :
    Valid (min sA sB) E (disjunctPeriods sA sB pA pB).periods (Amt.add totA totB) :=
  ⟨disjunct_WF sA sB pA pB hv.wf hB, hE, fun d => by
    rw [Amt.add_apply, disjunct_total sA sB pA pB hv.wf hB d, hv.sum, hsum]⟩

theorem disjunct_read {sA eA sB eB E : Int} {pA pB : List Period} {totA totB tot : Amt} {t : Int}
    (hA : Valid sA eA pA totA) (hB : Valid sB eB pB totB)
    (hm : Valid (min sA sB) E (disjunctPeriods sA sB pA pB).periods tot) (hsA : sA < t) (hsB : sB < t) (d : Nat) :
    readSchedule (min sA sB) E (disjunctPeriods sA sB pA pB).periods tot t d =
      readSchedule sA eA pA totA t d + readSchedule sB eB pB totB t d := by
  rw [hm.read_eq_loop (Int.lt_of_le_of_lt (Int.min_le_left ..) hsA), hA.read_eq_loop hsA, hB.read_eq_loop hsB]
  exact disj_read sA sB _ pA pB t d

structure GrantValid (gL gV : List Period) (coins : Amt) : Prop where
  wfL : WF gL
  wfV : WF gV
  sumL : ∀ d, coins d = totalAmount gL d
  sumV : ∀ d, coins d = totalAmount gV d

theorem addGrant_valid (a : Account) (gs : Int) (gL gV : List Period) (coins : Amt)
    (hv : AccValid a) (hg : GrantValid gL gV coins) : AccValid (a.addGrant gs gL gV coins) :=
  -- the new end time is the later of the two merged ends (`if l ≤ v then v else l` unfolds to `max l v`)
  ⟨disjunct_valid hv.lockup hg.wfL hg.sumL (Int.le_max_left ..),
   disjunct_valid hv.vesting hg.wfV hg.sumV (Int.le_max_right ..)⟩

/-- **merge = union**: strictly after both have started, the merged account releases (unlocks and
    vests) exactly the sum of what the account and the grant release on their own. -/
theorem addGrant_union (a : Account) (gs : Int) (gL gV : List Period) (coins : Amt)
    (hv : AccValid a) (hg : GrantValid gL gV coins) (t : Int) (hA : a.start < t) (hB : gs < t) (d : Nat) :
    (a.addGrant gs gL gV coins).unlocked t d =
        a.unlocked t d + readSchedule gs (gs + totalLength gL) gL coins t d ∧
    (a.addGrant gs gL gV coins).vested t d =
        a.vested t d + readSchedule gs (gs + totalLength gV) gV coins t d :=
  have hv' := addGrant_valid a gs gL gV coins hv hg
  ⟨disjunct_read hv.lockup ⟨hg.wfL, Int.le_refl _, hg.sumL⟩ hv'.lockup hA hB d,
   disjunct_read hv.vesting ⟨hg.wfV, Int.le_refl _, hg.sumV⟩ hv'.vesting hA hB d⟩

/-- `ApplyVestingSchedule(merge)` (liquid-vesting redeem, MsgConvertIntoVestingAccount) hands the grant's own start
    time to addGrant — for the code as it is now (`Facts.vestingApplyUsesMin` is regenerated from
    x/vesting/keeper/schedule.go) — so `addGrant_union` with `gs` the grant's start describes that merge too.  The
    other entry point, MsgCreateClawbackVestingAccount, passes the message's start time itself
    (`Facts.vestingCreatePassesOwnStart`; no theorem is stated over it). -/
theorem applySchedule_passes_grant_start (accStart grantStart : Int) :
    applyGrantStart Facts.vestingApplyUsesMin accStart grantStart = grantStart := by
  have h : Facts.vestingApplyUsesMin = false := rfl
  rw [applyGrantStart, h, if_neg Bool.false_ne_true]

/-- the repaired finding `C09:disj-merge-start` on the model: with `min(grantStart, accStart)` (before the repair
    9f9d1d1) a later-starting grant is read from the account's earlier start and releases early (account: 100 @ start
    1000 + 500; grant: 50 @ start 2000 + 500; at t = 1600 the merged account has unlocked all 150 instead of 100). -/
theorem applySchedule_min_counterexample :
    let a : Account := newAccount 7 1000 (fun d => if d = 0 then 100 else 0)
      [⟨500, fun d => if d = 0 then 100 else 0⟩] [⟨500, fun d => if d = 0 then 100 else 0⟩]
    let g : List Period := [⟨500, fun d => if d = 0 then 50 else 0⟩]
    let coins : Amt := fun d => if d = 0 then 50 else 0
    (a.addGrant (applyGrantStart true a.start 2000) g g coins).unlocked 1600 0 = 150 ∧
    (a.addGrant (applyGrantStart false a.start 2000) g g coins).unlocked 1600 0 = 100 := by
  decide +kernel

theorem conjunct_WF (M : Nat) (sA sB : Int) (pA pB : List Period) (hA : WF pA) (hB : WF pB) :
    WF (conjunctPeriods M sA sB pA pB).periods :=
  conj_WF M sA sB (min sA sB) Amt.zero Amt.zero Amt.zero pA pB hA hB (Next_min_left sB hA) (Next_min_right sA hB)

/-- ConjunctPeriods is exactly the pointwise minimum of the two step functions, at every instant,
    for every denomination in use; the emitted periods sum to the minimum of the totals. -/
theorem conjunct_min (M : Nat) (sA sB : Int) (pA pB : List Period) (hA : WF pA) (hB : WF pB)
    (t : Int) (d : Nat) (hd : d < M) :
    let m := conjunctPeriods M sA sB pA pB
    readLoop m.start m.periods t d = min (readLoop sA pA t d) (readLoop sB pB t d) ∧
    totalAmount m.periods d = min (totalAmount pA d) (totalAmount pB d) ∧
    WF m.periods := by
  have hr (t : Int) := conj_read M sA sB (min sA sB) Amt.zero Amt.zero Amt.zero pA pB t d hd hA hB fun _ _ => rfl
  simp only [Amt.zero_apply, Nat.add_zero, Nat.zero_add] at hr
  have hw := conjunct_WF M sA sB pA pB hA hB
  exact ⟨hr t, total_of_read (R := fun x y z => x = min y z) hw hA hB hr, hw⟩

/-- one step of why the `IsAllLTE` guard inside ConjunctPeriods is never false for non-negative amounts: if the running
    result equals the minimum of the running totals (the loop invariant), the guard is true after either total grows.
    That the invariant holds along the run is inside `conj_read`. -/
theorem conjunct_guard_always (M : Nat) (totA totB totA' totB' res : Amt)
    (hinv : ∀ d, d < M → res d = min (totA d) (totB d))
    (hA : ∀ d, totA d ≤ totA' d) (hB : ∀ d, totB d ≤ totB' d) :
    Amt.allLE M res (Amt.min totA' totB') = true :=
  (Amt.allLE_iff ..).2 (guard_step hinv hA hB)

/-- the definition of `computeClawback` (Go: `ComputeClawback`) read field by field, each conjunct by `rfl`: "exactly
    the unvested amount" is how the result is computed, not a derived fact -/
theorem clawback_amount (M : Nat) (a : Account) (t : Int) :
    (a.computeClawback M t).2 = a.unvested t ∧ (a.computeClawback M t).1.original = a.vested t ∧
    (a.computeClawback M t).1.funder = a.funder ∧ (a.computeClawback M t).1.start = a.start :=
  ⟨rfl, rfl, rfl, rfl⟩

theorem WF_cap (v : Amt) : WF [(⟨0, v⟩ : Period)] := WF_cons (Int.le_refl 0) WF_nil

/-- capping: ConjunctPeriods with the one-period schedule "all of `v` at once" from the same start releases, strictly
    after the start, what the schedule releases up to `v` -/
theorem conjunct_cap (M : Nat) (s : Int) (ps : List Period) (v : Amt) (hw : WF ps) (d : Nat) (hd : d < M) :
    (∀ t, s < t → readLoop s (conjunctPeriods M s s ps [⟨0, v⟩]).periods t d = min (readLoop s ps t d) (v d)) ∧
    totalAmount (conjunctPeriods M s s ps [⟨0, v⟩]).periods d = min (totalAmount ps d) (v d) := by
  refine ⟨fun t ht => ?_, (conjunct_min M s s ps [⟨0, v⟩] hw (WF_cap v) 0 d hd).2.1⟩
  have h := (conjunct_min M s s ps [⟨0, v⟩] hw (WF_cap v) t d hd).1
  rwa [show (conjunctPeriods M s s ps [⟨0, v⟩]).start = s from Int.min_self s, readLoop_cons, Int.add_zero,
    if_neg (Int.not_lt.2 (Int.le_of_lt ht))] at h

theorem clawback_vesting_valid (M : Nat) (a : Account) (hv : AccValid a) (t : Int) :
    Valid a.start (a.computeClawback M t).1.endT (a.computeClawback M t).1.vesting (a.vested t) :=
  ⟨WF_take _ _ hv.vesting.wf, Int.le_max_left ..,
   fun d => (pastCount_sum a.start a.endT a.vesting a.original t d hv.vesting).symm⟩

/-- the lockup schedule after a clawback, the old one capped by the vested amount, falls short of `Valid` in that its sum
    is known on the denominations in use only -/
theorem clawback_lockup_valid (M : Nat) (a : Account) (hv : AccValid a) (t : Int) :
    WF (a.computeClawback M t).1.lockup ∧
    a.start + totalLength (a.computeClawback M t).1.lockup ≤ (a.computeClawback M t).1.endT ∧
    ∀ d, d < M → a.vested t d = totalAmount (a.computeClawback M t).1.lockup d := by
  refine ⟨conjunct_WF M _ _ _ _ hv.lockup.wf (WF_cap _), ?_, fun d hd => ?_⟩
  · show _ ≤ max _ (min a.start a.start + _)
    rw [Int.min_self]; exact Int.le_max_right ..
  · -- min(original, vested) = vested
    have h := (conjunct_cap M a.start a.lockup (a.vested t) hv.lockup.wf d hd).2
    rw [← hv.lockup.sum d] at h
    exact (h.trans (Nat.min_eq_right (read_le_total a.start a.endT a.vesting a.original t d hv.vesting))).symm

/-- **vested coins stay, still subject to their lockup**: after a clawback at time t the account
    unlocks, at every instant t', exactly min(what the old lockup had unlocked by t', what had
    vested by t). -/
theorem clawback_lockup_cap (M : Nat) (a : Account) (hv : AccValid a) (t t' : Int) (d : Nat) (hd : d < M) :
    (a.computeClawback M t).1.unlocked t' d = min (a.unlocked t' d) (a.vested t d) := by
  obtain ⟨hwf, hend, hsum⟩ := clawback_lockup_valid M a hv t
  obtain ⟨_, horig, _, hstart⟩ := clawback_amount M a t
  rw [Account.unlocked, Account.unlocked, hstart, horig]
  by_cases hs : t' ≤ a.start
  · rw [schedule_zero_until_start _ _ _ _ _ hs, schedule_zero_until_start _ _ _ _ _ hs, Nat.zero_min]
  · have hs := Int.not_le.1 hs
    rw [read_eq_loop hwf hend (hsum d hd) hs, hv.lockup.read_eq_loop hs]
    exact (conjunct_cap M a.start a.lockup (a.vested t) hv.lockup.wf d hd).1 t' hs

theorem clawback_vested (M : Nat) (a : Account) (hv : AccValid a) (t : Int) (d : Nat) :
    (a.computeClawback M t).1.vested t d = a.vested t d := by
  have hV := clawback_vesting_valid M a hv t
  by_cases hs : t ≤ a.start
  · exact (schedule_zero_until_start _ _ _ _ _ hs d).trans (schedule_zero_until_start _ _ _ _ _ hs d).symm
  · -- the kept periods have all ended by `t`, so they are read in full
    have hs := Int.not_le.1 hs
    exact (hV.read_eq_loop hs d).trans <|
      (readLoop_all _ _ _ d hV.wf (pastCount_ended hv.vesting hs)).trans (hV.sum d).symm

theorem amtEq_iff (M : Nat) (a b : Amt) : amtEq M a b = true ↔ ∀ d, d < M → a d = b d := by
  simp only [amtEq, Bool.and_eq_true, Amt.allLE_iff]
  exact ⟨fun h d hd => Nat.le_antisymm (h.1 d hd) (h.2 d hd),
    fun h => ⟨fun d hd => Nat.le_of_eq (h d hd), fun d hd => Nat.le_of_eq (h d hd).symm⟩⟩

theorem validate_ok_iff (strict : Bool) (M : Nat) (a : Account) :
    a.validate strict M = .ok () ↔
      (if strict then a.start < a.endT else a.start ≤ a.endT) ∧
      a.start + totalLength a.lockup ≤ a.endT ∧ (∀ d, d < M → totalAmount a.lockup d = a.original d) ∧
      a.start + totalLength a.vesting ≤ a.endT ∧ (∀ d, d < M → totalAmount a.vesting d = a.original d) := by
  simp only [Account.validate, ite_error_eq_ok, Bool.not_eq_true', Bool.not_eq_false, amtEq_iff, Int.not_lt,
    and_true, gt_iff_lt]
  cases strict <;> simp only [Bool.false_eq_true, if_false, if_true, decide_eq_true_eq, Int.not_lt, Int.not_le, ge_iff_le]

theorem clawback_valid_iff (strict : Bool) (M : Nat) (a : Account) (hv : AccValid a) (t : Int) :
    (a.computeClawback M t).1.validate strict M = .ok () ↔
      (if strict then a.start < (a.computeClawback M t).1.endT else a.start ≤ (a.computeClawback M t).1.endT) := by
  obtain ⟨_, hendL, hsumL⟩ := clawback_lockup_valid M a hv t
  have hV := clawback_vesting_valid M a hv t
  rw [validate_ok_iff]
  exact ⟨fun h => h.1, fun h => ⟨h, hendL, fun d hd => (hsumL d hd).symm, hV.endOk, fun d _ => (hV.sum d).symm⟩⟩

/-- **a clawback leaves a valid account** — for the comparison the code has now
    (`Facts.vestingValidateStrict`, regenerated from clawback_vesting_account.go): the clawback-specific part of the
    account's own `Validate()` accepts the result of a clawback at any time.  Its tail call
    `BaseVestingAccount.Validate()` (DelegatedVesting ≤ OriginalVesting) is not modelled. -/
theorem clawback_valid (M : Nat) (a : Account) (hv : AccValid a) (t : Int) :
    (a.computeClawback M t).1.validate Facts.vestingValidateStrict M = .ok () := by
  have hf : Facts.vestingValidateStrict = false := rfl
  obtain ⟨hwfL, hendL, _⟩ := clawback_lockup_valid M a hv t
  rw [hf, clawback_valid_iff false M a hv t, if_neg Bool.false_ne_true]
  exact Int.le_trans (Int.le_add_of_nonneg_right (totalLength_nonneg _ hwfL)) hendL

/-- the repaired finding `C09:clawback:invalid-account:startNotBeforeEnd` on the model (strict comparison, before the
    repair 31c8401): a valid account clawed back before its first vesting event keeps nothing, gets
    `EndTime = StartTime`, and `Validate()` rejects it. -/
theorem clawback_valid_counterexample :
    let a : Account := newAccount 7 1000 (fun d => if d = 0 then 100 else 0)
      [⟨500, fun d => if d = 0 then 100 else 0⟩] [⟨500, fun d => if d = 0 then 100 else 0⟩]
    a.validate true 1 = .ok () ∧
    (a.computeClawback 1 1200).2 0 = 100 ∧
    (a.computeClawback 1 1200).1.endT = 1000 ∧
    (a.computeClawback 1 1200).1.validate true 1 = .error .startNotBeforeEnd := by
  refine ⟨(validate_ok_iff ..).2 (by decide +kernel), by decide +kernel, by decide +kernel, ?_⟩
  rw [Account.validate, if_pos (by decide +kernel)]

theorem clawbackMsg_ok_iff (M : Nat) (acc : Option Account) (msgFunder : Nat) (blocked : Bool) (now : Int)
    (r : Account × Amt) :
    clawbackMsg M acc msgFunder blocked now = .ok r ↔
      ∃ a, acc = some a ∧ blocked = false ∧ (a.vesting.isEmpty && a.lockup.isEmpty) = false ∧ a.funder = msgFunder ∧
        r = if Amt.isZero M (a.unvested now) then (a, Amt.zero) else a.computeClawback M now := by
  unfold clawbackMsg
  rw [ite_error_eq_ok]
  cases acc with
  | none => exact ⟨fun h => (nomatch h.2), fun ⟨_, h, _⟩ => nomatch h⟩
  | some a =>
    simp only [ite_error_eq_ok, Option.some.injEq, exists_eq_left', Bool.not_eq_true, ne_eq, Decidable.not_not]
    refine and_congr_right fun _ => and_congr_right fun _ => and_congr_right fun _ => ?_
    show (if Amt.isZero M (a.unvested now) then _ else _) = _ ↔ _
    split <;> exact ⟨fun h => (Except.ok.inj h).symm, fun h => h ▸ rfl⟩

/-- **only the recorded funder** can claw back -/
theorem clawback_only_funder (M : Nat) (acc : Option Account) (msgFunder : Nat) (blocked : Bool) (now : Int)
    (r : Account × Amt) (h : clawbackMsg M acc msgFunder blocked now = .ok r) :
    ∃ a, acc = some a ∧ a.funder = msgFunder :=
  let ⟨a, ha, _, _, hf, _⟩ := (clawbackMsg_ok_iff ..).1 h
  ⟨a, ha, hf⟩

/-- … and only the current funder can name another one, which is all the message changes -/
theorem updateFunder_only_funder (acc : Option Account) (msgFunder newFunder : Nat) (blocked : Bool)
    (a' : Account) (h : updateFunderMsg acc msgFunder newFunder blocked = .ok a') :
    ∃ a, acc = some a ∧ a.funder = msgFunder ∧ a' = { a with funder := newFunder } := by
  revert h
  fun_cases updateFunderMsg acc msgFunder newFunder blocked with
  | case4 _ a hf => exact fun h => ⟨a, rfl, Decidable.not_not.1 hf, (Except.ok.inj h).symm⟩  -- `hf`: `a`'s funder signs
  | _ => nofun  -- refused: blocked, not a vesting account, not the funder

/-- a successful clawback message sends exactly the unvested amount (denominations in use) and keeps
    the vested amount as the account's new grant -/
theorem clawbackMsg_exact (M : Nat) (a : Account) (hv : AccValid a) (blocked : Bool) (now : Int)
    (r : Account × Amt) (h : clawbackMsg M (some a) a.funder blocked now = .ok r) (d : Nat) (hd : d < M) :
    r.2 d = a.unvested now d ∧ r.1.vested now d = a.vested now d := by
  obtain ⟨_, ha, _, _, _, rfl⟩ := (clawbackMsg_ok_iff ..).1 h
  cases ha
  split
  · rename_i hz
    exact ⟨((Amt.isZero_iff M _).1 hz d hd).symm, rfl⟩
  · exact ⟨rfl, clawback_vested M a hv now d⟩

/-- test vector: a two-denomination account that `Validate()` accepts; merged with a grant it releases the sum once the
    grant's period has ended and not a second earlier; clawed back before and after its vesting event -/
example :
    let amt (x y : Nat) : Amt := fun d => if d = 0 then x else if d = 1 then y else 0
    let a : Account := newAccount 7 1000 (amt 100 8) [⟨0, amt 40 8⟩, ⟨500, amt 60 0⟩] [⟨300, amt 100 8⟩]
    let g : List Period := [⟨500, amt 50 0⟩]
    a.validate false 2 = .ok () ∧ (a.addGrant 2000 g g (amt 50 0)).unlocked 2500 0 = 150 ∧
    (a.addGrant 2000 g g (amt 50 0)).unlocked 2499 0 = 100 ∧
    (a.computeClawback 2 1200).1.unlocked 1600 0 = 0 ∧ (a.computeClawback 2 1400).1.unlocked 1600 0 = 100 :=
  ⟨(validate_ok_iff ..).2 (by decide +kernel), by decide +kernel⟩

end Haqq.Vest
