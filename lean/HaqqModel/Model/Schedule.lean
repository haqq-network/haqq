/-
  Model of x/vesting/types/schedule.go (ReadSchedule, ReadPastPeriodCount, DisjunctPeriods,
  ConjunctPeriods, AlignSchedules).  Core Lean only.

  Amounts are `sdk.Coins`, modelled pointwise as total functions `denom → Nat` (Add / Min / Sub /
  IsAllLTE / IsZero are pointwise in the SDK).  The two *tests* `IsAllLTE` and `IsZero` inspect the
  finitely many denominations in use; `M` is their number (denominations are `0 … M-1`).
  Times and lengths are `Int` (Go: int64; the generators stay far from the 2^63 boundary and the
  Go code performs no overflow checks on them).
-/
import HaqqModel.Prelude.Basic

namespace Haqq.Sched

abbrev Amt := Nat → Nat

def Amt.zero : Amt := fun _ => 0
def Amt.add (a b : Amt) : Amt := fun d => a d + b d
def Amt.min (a b : Amt) : Amt := fun d => Min.min (a d) (b d)
def Amt.sub (a b : Amt) : Amt := fun d => a d - b d
/-- sdk.Coins.IsAllLTE over the denominations in use -/
def Amt.allLE (M : Nat) (a b : Amt) : Bool := !(anyTo (fun d => decide (b d < a d)) M)
/-- sdk.Coins.IsZero over the denominations in use -/
def Amt.isZero (M : Nat) (a : Amt) : Bool := !(anyTo (fun d => decide (0 < a d)) M)

structure Period where
  length : Int
  amount : Amt

def totalAmount : List Period → Amt
  | [] => Amt.zero
  | p :: ps => Amt.add p.amount (totalAmount ps)

def totalLength : List Period → Int
  | [] => 0
  | p :: ps => p.length + totalLength ps

/-- the loop of ReadSchedule: sum of the amounts of all periods whose end is ≤ t, stopping at the
    first period that has not ended -/
def readLoop (elapsed : Int) (ps : List Period) (t : Int) : Amt :=
  match ps with
  | [] => Amt.zero
  | p :: rest => if t < elapsed + p.length then Amt.zero else Amt.add p.amount (readLoop (elapsed + p.length) rest t)

/-- ReadSchedule -/
def readSchedule (start endT : Int) (ps : List Period) (total : Amt) (t : Int) : Amt :=
  if t ≤ start then Amt.zero
  else if t ≥ endT then total
  else readLoop start ps t

def pastLoop (elapsed : Int) (ps : List Period) (t : Int) : Nat :=
  match ps with
  | [] => 0
  | p :: rest => if t < elapsed + p.length then 0 else 1 + pastLoop (elapsed + p.length) rest t

/-- ReadPastPeriodCount -/
def readPastPeriodCount (start endT : Int) (ps : List Period) (t : Int) : Nat :=
  if t ≤ start then 0
  else if t ≥ endT then ps.length
  else pastLoop start ps t

/-- DisjunctPeriods main loops.  `tA`/`tB`: time of the last merged event of each side; `e`: end time
    of the last emitted period. -/
def disj (tA tB e : Int) : List Period → List Period → List Period
  | [], [] => []
  | a :: as, [] => ⟨tA + a.length - e, a.amount⟩ :: disj (tA + a.length) tB (tA + a.length) as []
  | [], b :: bs => ⟨tB + b.length - e, b.amount⟩ :: disj tA (tB + b.length) (tB + b.length) [] bs
  | a :: as, b :: bs =>
    if tA + a.length < tB + b.length then
      ⟨tA + a.length - e, a.amount⟩ :: disj (tA + a.length) tB (tA + a.length) as (b :: bs)
    else if tB + b.length < tA + a.length then
      ⟨tB + b.length - e, b.amount⟩ :: disj tA (tB + b.length) (tB + b.length) (a :: as) bs
    else ⟨tA + a.length - e, Amt.add a.amount b.amount⟩ :: disj (tA + a.length) (tB + b.length) (tA + a.length) as bs
termination_by as bs => as.length + bs.length

structure Merged where
  start : Int
  endT : Int
  periods : List Period

/-- DisjunctPeriods -/
def disjunctPeriods (sA sB : Int) (pA pB : List Period) : Merged :=
  let s := if sA ≤ sB then sA else sB
  let ps := disj sA sB s pA pB
  { start := s, endT := s + totalLength ps, periods := ps }

/-- one `consume*` step of ConjunctPeriods after the running totals were updated: emit the positive
    part of min(totA,totB) − resulting, if the guard holds -/
def conjEmit (M : Nat) (next e : Int) (totA totB res : Amt) : Option Period × Int × Amt :=
  let m := Amt.min totA totB
  if Amt.allLE M res m then
    let diff := Amt.sub m res
    if !Amt.isZero M diff then (some ⟨next - e, diff⟩, next, Amt.add res diff) else (none, e, res)
  else (none, e, res)

/-- What the compiler runs for `conjEmit`: `res + (m − res)` written as `max res m`, so that the running total is
    looked up once per step and not twice (the amounts are functions: looking `res` up twice at every one of `n`
    steps costs `2ⁿ`).  Proved equal below; `@[csimp]` makes the compiled driver use it, the theorems are about
    `conjEmit`. -/
def conjEmitFast (M : Nat) (next e : Int) (totA totB res : Amt) : Option Period × Int × Amt :=
  let m := Amt.min totA totB
  if Amt.allLE M res m then
    let diff := Amt.sub m res
    if !Amt.isZero M diff then (some ⟨next - e, diff⟩, next, fun d => Max.max (res d) (m d)) else (none, e, res)
  else (none, e, res)

@[csimp] theorem conjEmit_eq_fast : @conjEmit = @conjEmitFast := by
  funext M next e totA totB res
  have h : Amt.add res (Amt.sub (Amt.min totA totB) res) = fun d => Max.max (res d) (Amt.min totA totB d) :=
    funext fun d => by rw [Nat.max_comm]; exact (Nat.add_comm ..).trans (Nat.sub_add_eq_max ..)
  simp only [conjEmit, conjEmitFast, h]

def consOpt (o : Option Period) (l : List Period) : List Period :=
  match o with
  | some p => p :: l
  | none => l

/-- ConjunctPeriods main loops -/
def conj (M : Nat) (tA tB e : Int) (totA totB res : Amt) : List Period → List Period → List Period
  | [], [] => []
  | a :: as, [] =>
    let totA' := Amt.add totA a.amount
    let r := conjEmit M (tA + a.length) e totA' totB res
    consOpt r.1 (conj M (tA + a.length) tB r.2.1 totA' totB r.2.2 as [])
  | [], b :: bs =>
    let totB' := Amt.add totB b.amount
    let r := conjEmit M (tB + b.length) e totA totB' res
    consOpt r.1 (conj M tA (tB + b.length) r.2.1 totA totB' r.2.2 [] bs)
  | a :: as, b :: bs =>
    if tA + a.length < tB + b.length then
      let totA' := Amt.add totA a.amount
      let r := conjEmit M (tA + a.length) e totA' totB res
      consOpt r.1 (conj M (tA + a.length) tB r.2.1 totA' totB r.2.2 as (b :: bs))
    else if tB + b.length < tA + a.length then
      let totB' := Amt.add totB b.amount
      let r := conjEmit M (tB + b.length) e totA totB' res
      consOpt r.1 (conj M tA (tB + b.length) r.2.1 totA totB' r.2.2 (a :: as) bs)
    else
      let totA' := Amt.add totA a.amount
      let totB' := Amt.add totB b.amount
      let r := conjEmit M (tA + a.length) e totA' totB' res
      consOpt r.1 (conj M (tA + a.length) (tB + b.length) r.2.1 totA' totB' r.2.2 as bs)
termination_by as bs => as.length + bs.length

/-- ConjunctPeriods -/
def conjunctPeriods (M : Nat) (sA sB : Int) (pA pB : List Period) : Merged :=
  let s := if sA ≤ sB then sA else sB
  let ps := conj M sA sB s Amt.zero Amt.zero Amt.zero pA pB
  { start := s, endT := s + totalLength ps, periods := ps }

/-- AlignSchedules: (startTime, endTime); the in-place lengthening of the first periods is
    `alignFirst` -/
def alignFirst (ps : List Period) (delta : Int) : List Period :=
  match ps with
  | [] => []
  | p :: rest => { p with length := p.length + delta } :: rest

def alignSchedules (sA sB : Int) (pA pB : List Period) : Int × Int :=
  let s := if sA ≤ sB then sA else sB
  let eA := s + totalLength (alignFirst pA (sA - s))
  let eB := s + totalLength (alignFirst pB (sB - s))
  (s, if eA ≤ eB then eB else eA)

end Haqq.Sched
