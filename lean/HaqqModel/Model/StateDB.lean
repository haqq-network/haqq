/-
  Model of x/evm/statedb (StateDB, journal, stateObject) and of the keeper side it commits to
  (x/evm/keeper/statedb.go: GetAccount / SetAccount → SetBalance mint-or-burn / SetState / DeleteAccount).
  Core Lean only.  Addresses, storage keys and values are naturals; code is not modelled (a code hash change
  is the same kind of journal entry as a nonce change).
-/
import HaqqModel.Prelude.Basic

namespace Haqq.SDB

/-- a cached state object -/
structure Obj where
  bal : Nat
  nonce : Nat
  suicided : Bool
  stor : Nat → Nat                  -- effective storage view: dirtyStorage over originStorage (the committed store)
  base : Nat → Nat                  -- what Commit compares a slot with: transientStorage (the value the last Commit of
                                    -- this object wrote) where there is one, originStorage otherwise

inductive Entry
  | create (a : Nat)                                  -- createObjectChange
  | balance (a prev : Nat)                            -- balanceChange
  | nonce (a prev : Nat)                              -- nonceChange
  | storage (a k prev : Nat)                          -- storageChange
  | refund (prev : Nat)                               -- refundChange
  | log                                               -- addLogChange
  | suicide (a : Nat) (prevS : Bool) (prevBal : Nat)  -- suicideChange
  | accAddr (a : Nat)                                 -- accessListAddAccountChange
  | accSlot (a k : Nat)                               -- accessListAddSlotChange
  | reset (a : Nat) (prev : Obj)                      -- resetObjectChange (CreateAccount over an existing object)

def Entry.dirtied : Entry → Option Nat
  | .create a => some a
  | .balance a _ => some a
  | .nonce a _ => some a
  | .storage a _ _ => some a
  | .suicide a _ _ => some a
  | _ => none

/-- the Cosmos side the StateDB reads from and commits to -/
structure Keeper where
  exist : Nat → Bool               -- an auth account exists
  bal : Nat → Nat                  -- bank balance in the EVM denomination
  nonce : Nat → Nat
  store : Nat → Nat → Nat          -- contract storage
  supply : Int                     -- total supply of the EVM denomination (relative)

structure DB where
  objs : Nat → Option Obj
  journal : List Entry             -- newest first
  dirties : Nat → Nat              -- journal.dirties
  refund : Nat
  logs : Nat
  accA : Nat → Bool
  accS : Nat → Nat → Bool
  revisions : List (Nat × Nat)     -- (id, journal length), newest first
  nextRev : Nat
  k : Keeper

def DB.new (k : Keeper) : DB :=
  { objs := fun _ => none, journal := [], dirties := fun _ => 0, refund := 0, logs := 0,
    accA := fun _ => false, accS := fun _ _ => false, revisions := [], nextRev := 0, k := k }

/-- getStateObject: the cached object, or one loaded from the keeper -/
def DB.get (db : DB) (a : Nat) : Option Obj :=
  match db.objs a with
  | some o => some o
  | none => if db.k.exist a then some { bal := db.k.bal a, nonce := db.k.nonce a, suicided := false, stor := db.k.store a, base := db.k.store a } else none

def DB.getState (db : DB) (a k : Nat) : Nat :=
  match db.get a with
  | some o => o.stor k
  | none => 0

def DB.push (db : DB) (e : Entry) : DB :=
  -- (the new count is computed before the closure is built: a `match` in function position would be eta-expanded
  -- by the compiler and re-evaluate the old count on every lookup)
  match e.dirtied with
  | some a =>
    let n := db.dirties a + 1
    { db with journal := e :: db.journal, dirties := upd db.dirties a n }
  | none => { db with journal := e :: db.journal }

def DB.setObj (db : DB) (a : Nat) (o : Obj) : DB := { db with objs := upd db.objs a (some o) }

/-! ### micro-operations: each appends at most one journal entry -/

inductive MOp
  | create (a : Nat)                -- createObject when the account does not exist
  | setBal (a v : Nat)
  | setNonce (a v : Nat)
  | setState (a k v : Nat)
  | setRefund (v : Nat)
  | addLog
  | suicide (a : Nat)
  | accAddr (a : Nat)
  | accSlot (a k : Nat)
  | createAccount (a : Nat)         -- StateDB.CreateAccount (CREATE / CREATE2 target): a fresh object, the balance carried over

/-- getStateObject caches what it loads: a later bank-side change of the account is not seen through the cache -/
def DB.load (db : DB) (a : Nat) : DB :=
  match db.objs a with
  | some _ => db
  | none =>
    if db.k.exist a then
      { db with objs := upd db.objs a (some { bal := db.k.bal a, nonce := db.k.nonce a, suicided := false, stor := db.k.store a, base := db.k.store a }) }
    else db

/-- the address whose object an operation looks up (access-list operations look up none) -/
def MOp.addr : MOp → Option Nat
  | .create a => some a
  | .setBal a _ => some a
  | .setNonce a _ => some a
  | .setState a _ _ => some a
  | .suicide a => some a
  | .createAccount a => some a
  | _ => none

def mstepCore (db : DB) : MOp → DB
  | .create a =>
    match db.get a with
    | some _ => db
    | none => (db.push (.create a)).setObj a { bal := 0, nonce := 0, suicided := false, stor := db.k.store a, base := db.k.store a }
  | .setBal a v =>
    match db.get a with
    | some o => (db.push (.balance a o.bal)).setObj a { o with bal := v }
    | none => db
  | .setNonce a v =>
    match db.get a with
    | some o => (db.push (.nonce a o.nonce)).setObj a { o with nonce := v }
    | none => db
  | .setState a k v =>
    match db.get a with
    | some o =>
      if o.stor k = v then db
      else (db.push (.storage a k (o.stor k))).setObj a { o with stor := upd o.stor k v }
    | none => db
  | .setRefund v => { db.push (.refund db.refund) with refund := v }
  | .addLog => { db.push .log with logs := db.logs + 1 }
  | .suicide a =>
    match db.get a with
    | some o => (db.push (.suicide a o.suicided o.bal)).setObj a { o with suicided := true, bal := 0 }
    | none => db
  | .accAddr a => if db.accA a then db else { db.push (.accAddr a) with accA := upd db.accA a true }
  | .accSlot a k =>
    if db.accS a k then db else { db.push (.accSlot a k) with accS := upd db.accS a (upd (db.accS a) k true) }
  | .createAccount a =>
    match db.get a with
    | none => (db.push (.create a)).setObj a { bal := 0, nonce := 0, suicided := false, stor := db.k.store a, base := db.k.store a }
    | some prev =>
      -- resetObjectChange marks nothing dirty; the new object reads committed storage, the balance is carried over
      (db.push (.reset a prev)).setObj a { bal := prev.bal, nonce := 0, suicided := false, stor := db.k.store a, base := db.k.store a }

def mstep (db : DB) (op : MOp) : DB :=
  match op.addr with
  | some a => mstepCore (db.load a) op
  | none => mstepCore db op

/-- JournalEntry.Revert -/
def undo (db : DB) : Entry → DB
  | .create a => { db with objs := upd db.objs a none }
  | .balance a prev => (match db.get a with | some o => db.setObj a { o with bal := prev } | none => db)
  | .nonce a prev => (match db.get a with | some o => db.setObj a { o with nonce := prev } | none => db)
  | .storage a k prev => (match db.get a with | some o => db.setObj a { o with stor := upd o.stor k prev } | none => db)
  | .refund prev => { db with refund := prev }
  | .log => { db with logs := db.logs - 1 }
  | .suicide a prevS prevBal => (match db.get a with | some o => db.setObj a { o with suicided := prevS, bal := prevBal } | none => db)
  | .accAddr a => { db with accA := upd db.accA a false }
  | .accSlot a k => { db with accS := upd db.accS a (upd (db.accS a) k false) }
  | .reset a prev => db.setObj a prev

/-- undo the newest journal entry and lower the dirty count of the address it touched -/
def undoTop (db : DB) (e : Entry) : DB :=
  let db1 := undo db e
  match e.dirtied with
  | some a =>
    let n := db1.dirties a - 1
    { db1 with dirties := upd db1.dirties a n }
  | none => db1

/-- journal.Revert: undo the entries (newest first) until only `n` are left -/
def revertEntries (db : DB) : List Entry → Nat → DB
  | [], _ => { db with journal := [] }
  | e :: rest, n =>
    if rest.length + 1 ≤ n then { db with journal := e :: rest }
    else revertEntries (undoTop db e) rest n

def revertJournal (db : DB) (n : Nat) : DB := revertEntries db db.journal n

/-- Snapshot -/
def snapshot (db : DB) : DB × Nat :=
  ({ db with revisions := (db.nextRev, db.journal.length) :: db.revisions, nextRev := db.nextRev + 1 }, db.nextRev)

/-- RevertToSnapshot: none = "revision id cannot be reverted" (panic) -/
def revertTo (db : DB) (id : Nat) : Option DB :=
  match db.revisions.find? (·.1 == id) with
  | none => none
  | some (_, n) =>
    let db1 := revertJournal db n
    -- validRevisions is cut back to the entries older than `id`
    some { db1 with revisions := db.revisions.filter (fun r => decide (r.1 < id)) }

/-! ### macro operations as the EVM / precompiles call them -/

def ensure (db : DB) (a : Nat) : DB := mstep db (.create a)      -- getOrNewStateObject

def addBalance (db : DB) (a x : Nat) : DB :=
  let db1 := ensure db a
  if x = 0 then db1 else
  match db1.get a with
  | some o => mstep db1 (.setBal a (o.bal + x))
  | none => db1

/-- a read of an account (GetBalance, GetNonce, GetState, Exist, …): no journal entry, but the object is cached -/
def read (db : DB) (a : Nat) : DB := db.load a

/-- SubBalance (big.Int: a debit below zero is representable in Go; the EVM never asks for it) -/
def subBalance (db : DB) (a x : Nat) : DB :=
  let db1 := ensure db a
  if x = 0 then db1 else
  match db1.get a with
  | some o => mstep db1 (.setBal a (o.bal - x))
  | none => db1

def setNonce (db : DB) (a v : Nat) : DB := mstep (ensure db a) (.setNonce a v)
def setState (db : DB) (a k v : Nat) : DB := mstep (ensure db a) (.setState a k v)
def addRefund (db : DB) (g : Nat) : DB := mstep db (.setRefund (db.refund + g))
def subRefund (db : DB) (g : Nat) : DB := mstep db (.setRefund (db.refund - g))
def addLog (db : DB) : DB := mstep db .addLog
def suicide (db : DB) (a : Nat) : DB := mstep db (.suicide a)
def createAccount (db : DB) (a : Nat) : DB := mstep db (.createAccount a)
def addAddressToAccessList (db : DB) (a : Nat) : DB := mstep db (.accAddr a)
def addSlotToAccessList (db : DB) (a k : Nat) : DB := mstep (mstep db (.accAddr a)) (.accSlot a k)

/-- SyncBalances for one address: a cached, not self-destructed object whose balance differs from the bank's
    takes the bank's balance (journalled like any balance change) -/
def syncOne (db : DB) (a : Nat) : DB :=
  match db.objs a with
  | none => db
  | some o =>
    if o.suicided then db
    else if db.k.exist a = false then db
    else if o.bal = db.k.bal a then db
    else (db.push (.balance a o.bal)).setObj a { o with bal := db.k.bal a }

/-- StateDB.SyncBalances: every cached object, in address order (`addrs` lists the addresses the run can mention) -/
def syncBalances (db : DB) (addrs : List Nat) : DB := addrs.foldl syncOne db

/-- keeper.SetBalance: mint or burn the difference -/
def Keeper.setBalance (k : Keeper) (a v : Nat) : Keeper :=
  { k with bal := upd k.bal a v, supply := k.supply + (v : Int) - (k.bal a : Int) }

/-- a dirty slot is written unless it holds the value the object last saw committed ("skip noop changes");
    a slot that is not dirty holds that value by construction -/
def writeSlot (o : Obj) (a : Nat) (kk : Keeper) (key : Nat) : Keeper :=
  if o.stor key = o.base key then kk
  else { kk with store := upd kk.store a (upd (kk.store a) key (o.stor key)) }

/-- Commit of one dirty address -/
def commitOne (db : DB) (k : Keeper) (a : Nat) (keys : List Nat) : Keeper :=
  match db.objs a with
  | none => k
  | some o =>
    if o.suicided then
      -- DeleteAccount: only if an account exists: burn the balance, clear the storage, remove the account
      if k.exist a then
        let k1 := k.setBalance a 0
        { k1 with exist := upd k1.exist a false, nonce := upd k1.nonce a 0, store := upd k1.store a (fun _ => 0) }
      else k
    else
      let k1 := k.setBalance a o.bal
      let k2 := { k1 with exist := upd k1.exist a true, nonce := upd k1.nonce a o.nonce }
      keys.foldl (writeSlot o a) k2

/-- what Commit leaves in a written object: transientStorage[key] = the value just written -/
def flushObj (o : Obj) (keys : List Nat) : Obj :=
  if o.suicided then o else { o with base := fun key => if key ∈ keys then o.stor key else o.base key }

/-- Commit: every address with a positive dirty count, in ascending order (`addrs` lists the addresses
    and `keys` the storage keys the run can mention) -/
def commit (db : DB) (addrs keys : List Nat) : DB :=
  { db with k := addrs.foldl (fun k a => if db.dirties a > 0 then commitOne db k a keys else k) db.k,
            objs := fun a => if a ∈ addrs ∧ db.dirties a > 0 then (db.objs a).map (fun o => flushObj o keys) else db.objs a }

end Haqq.SDB
